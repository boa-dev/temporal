/-
  Props/C04.lean — property C04: PlainDate add/subtract/until/since follow Temporal date arithmetic exactly.
  `InRange d` = `d` is an existing calendar day inside Temporal's limits (what every constructor guarantees,
  theorem `IsoDate.newWithOverflow_inRange`).
-/
import TemporalModel.Lemmas.LoopLemmas
import TemporalModel.Lemmas.OptionLemmas
namespace TemporalModel
open NS Greg

/-- Every successfully constructed date is a valid day in range, and valid in-range dates are accepted as is. -/
theorem C04_constructor (y m d : Int) (ov : Overflow) (c : IsoDate) :
    (IsoDate.newWithOverflow y m d ov = .ok c → InRange c) ∧
    (InRange c → IsoDate.newWithOverflow c.year c.month c.day ov = .ok c) :=
  ⟨IsoDate.newWithOverflow_inRange c, IsoDate.newWithOverflow_of_inRange c ov⟩

/-- **AddISODate = Temporal's algorithm**: years and months first (year/month balanced, the day constrained or
    rejected per the overflow option, the intermediate date required to be in range), then weeks and days; every
    failure is a RangeError. Holds for all `i32`-sized duration fields (larger ones are RangeErrors). -/
theorem C04_add_spec (a : IsoDate) (ys ms ws ds : Int) (ov : Overflow)
    (h1 : (ys.natAbs : Int) < 2147483648) (h2 : (ms.natAbs : Int) < 2147483648)
    (h3 : (ws.natAbs : Int) < 2147483648) (h4 : (ds.natAbs : Int) < 2147483648) (ha : InRange a) :
    a.addDateDuration ys ms ws ds ov =
      (match IsoDate.newWithOverflow (balanceIsoYearMonth (a.year + ys) (a.month + ms)).1
              (balanceIsoYearMonth (a.year + ys) (a.month + ms)).2 a.day ov with
       | .ok inter =>
         if ((ds + ws * 7).natAbs : Int) > 2 * MAX_EPOCH_DAYS then .err .range
         else .ok (IsoDate.balance inter.year inter.month (inter.day + (ds + ws * 7)))
       | .err k => .err k
       | .panic => .panic) :=
  IsoDate.addDateDuration_spec a ys ms ws ds ov h1 h2 h3 h4 ha

/-- The weeks/days step moves exactly `7·weeks + days` along the day line. -/
theorem C04_add_on_timeline (c : IsoDate) (k : Int) (hc : InRange c) (hk : (k.natAbs : Int) ≤ 2 * MAX_EPOCH_DAYS) :
    ∃ r : IsoDate, IsoDate.balance c.year c.month (c.day + k) = r ∧ Valid r.year r.month r.day ∧
      dayNumber r.year r.month r.day = dayNumber c.year c.month c.day + k := by
  have h := IsoDate.balance_spec c.year c.month (c.day + k) hc.1.1 hc.1.2.1
  exact ⟨_, rfl, h.1, h.2.trans (dayNumber_add_day ..)⟩

/-- Out-of-`i32` duration fields are RangeErrors (never a wrapped value). -/
theorem C04_add_huge_fields (a : IsoDate) (ys ms ws ds : Int) (ov : Overflow)
    (h : ¬ (-2147483648 ≤ ys ∧ ys ≤ 2147483647)) : a.addDateDuration ys ms ws ds ov = .err .range := by
  unfold IsoDate.addDateDuration asDateValue; rw [if_neg h]; rfl

/-- **until with largestUnit = day is the timeline distance.** -/
theorem C04_until_day (a b : IsoDate) (ha : InRange a) (hb : InRange b) (hne : a ≠ b) :
    plainDateInternalDiff a b .day =
      .ok ⟨0, 0, 0, dayNumber b.year b.month b.day - dayNumber a.year a.month a.day, 0, 0, 0, 0, 0, 0⟩ := by
  unfold plainDateInternalDiff
  rw [if_neg hne, if_pos rfl, ha.toEpochDays, hb.toEpochDays]
  have := ha.2; have := hb.2
  exact Dur.new_days _ (by omega)

/-- **The inverse law** `start.add(start.until(end, U)) = end`, for every largest unit `U`. -/
theorem C04_add_until (a b : IsoDate) (U : TUnit) (D : Dur) (ha : InRange a) (hb : InRange b)
    (h : a.diffIsoDate b U = .ok D) :
    a.addDateDuration D.years D.months D.weeks D.days .constrain = .ok b :=
  diff_add_inverse a b U D ha hb h

/-- `since` is the negation of `until` computed with the mirrored rounding mode; `subtract(d) = add(−d)`. -/
theorem C04_since_subtract (a b : IsoDate) (raw : RawOptions) (d : Dur) (ov : Overflow) :
    plainDateSubtract a d ov = plainDateAdd a d.negated ov ∧
    (∀ o, fromDiffSettings raw true .date .day .day = .ok o →
      ∃ o', fromDiffSettings raw false .date .day .day = .ok o' ∧ o.mode = o'.mode.negate ∧
        o.largest = o'.largest ∧ o.smallest = o'.smallest ∧ o.increment = o'.increment) := by
  refine ⟨rfl, fun o ho => ?_⟩
  rw [fromDiffSettings_eq, diffSettingsSpec_since] at ho
  rw [fromDiffSettings_eq]
  generalize diffSettingsSpec .date .day .day false raw.largest raw.smallest raw.increment raw.mode = s at ho ⊢
  cases s with
  | none => cases ho
  | some o' => cases ho; exact ⟨o', rfl, rfl, rfl, rfl, rfl⟩

/-! Month-end clamping in both modes, days added after the clamp, a difference in months, and `add(P2147483647D)`,
    a RangeError since the fix 5a31a53. -/
example : (⟨2024, 1, 31⟩ : IsoDate).addDateDuration 0 1 0 0 .constrain = .ok ⟨2024, 2, 29⟩ := by decide
example : (⟨2024, 1, 31⟩ : IsoDate).addDateDuration 0 1 0 0 .reject = .err .range := by decide
example : (⟨2021, 1, 31⟩ : IsoDate).addDateDuration 0 1 0 2 .constrain = .ok ⟨2021, 3, 2⟩ := by decide
example : (⟨2024, 1, 31⟩ : IsoDate).diffIsoDate ⟨2024, 3, 30⟩ .month = .ok ⟨0, 1, 0, 30, 0, 0, 0, 0, 0, 0⟩ := by decide
example : (⟨2024, 1, 31⟩ : IsoDate).addDateDuration 0 0 0 2147483647 .constrain = .err .range := by decide

end TemporalModel

#print axioms TemporalModel.C04_constructor
#print axioms TemporalModel.C04_add_spec
#print axioms TemporalModel.C04_add_on_timeline
#print axioms TemporalModel.C04_add_huge_fields
#print axioms TemporalModel.C04_until_day
#print axioms TemporalModel.C04_add_until
#print axioms TemporalModel.C04_since_subtract
