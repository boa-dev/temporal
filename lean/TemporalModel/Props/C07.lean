/-
  Props/C07.lean — property C07: rounding picks the neighbouring multiple prescribed by the mode.
-/
import TemporalModel.Lemmas.RoundLemmas
namespace TemporalModel

/-- **C07 (main).** The coded integer rounder equals RoundNumberToIncrement for every value, every
positive increment (odd or even) and all nine modes. -/
theorem C07_round_eq_spec (x inc : Int) (mode : RMode) (h : 0 < inc) :
    RoundI128.round x inc mode = roundSpec x inc mode :=
  RoundI128.round_eq_spec x inc mode h

/-- The result is one of the two neighbouring multiples of the increment. -/
theorem C07_result_is_neighbour (x inc : Int) (mode : RMode) (h : 0 < inc) :
    RoundI128.round x inc mode = lowerMultiple x inc ∨
    RoundI128.round x inc mode = lowerMultiple x inc + inc := by
  rw [C07_round_eq_spec x inc mode h]
  exact (roundSpec_neighbour x inc mode).imp_right And.right

/-- The neighbours bracket the exact value: r1 ≤ x < r2. -/
theorem C07_bracket (x inc : Int) (h : 0 < inc) :
    lowerMultiple x inc ≤ x ∧ x < lowerMultiple x inc + inc :=
  lowerMultiple_bracket x inc h

/-- An exact multiple is returned unchanged, whatever the mode. -/
theorem C07_multiple_fixed (k inc : Int) (mode : RMode) (h : 0 < inc) :
    RoundI128.round (inc * k) inc mode = inc * k :=
  RoundI128.round_mul k inc mode h

/-- The result is within one increment of the exact value. -/
theorem C07_within_increment (x inc : Int) (mode : RMode) (h : 0 < inc) :
    -inc < RoundI128.round x inc mode - x ∧ RoundI128.round x inc mode - x < inc := by
  have hb := C07_bracket x inc h
  have := roundSpec_neighbour x inc mode
  rw [C07_round_eq_spec x inc mode h]
  omega

/-- Direction modes. -/
theorem C07_floor (x inc : Int) (h : 0 < inc) :
    RoundI128.round x inc .floor = lowerMultiple x inc := by
  rw [C07_round_eq_spec _ _ _ h]
  show (if x = lowerMultiple x inc then x else lowerMultiple x inc) = lowerMultiple x inc
  split <;> omega
theorem C07_ceil (x inc : Int) (h : 0 < inc) :
    RoundI128.round x inc .ceil = if x = lowerMultiple x inc then x else lowerMultiple x inc + inc := by
  rw [C07_round_eq_spec _ _ _ h]; rfl

/-- Half modes go to the strictly nearer neighbour. -/
theorem C07_half_nearest (x inc : Int) (mode : RMode) (h : 0 < inc)
    (hm : mode = .halfCeil ∨ mode = .halfFloor ∨ mode = .halfExpand ∨ mode = .halfTrunc ∨ mode = .halfEven) :
    (2 * (x - lowerMultiple x inc) < inc → RoundI128.round x inc mode = lowerMultiple x inc) ∧
    (2 * (x - lowerMultiple x inc) > inc → RoundI128.round x inc mode = lowerMultiple x inc + inc) := by
  rw [C07_round_eq_spec _ _ _ h]
  have hb := C07_bracket x inc h
  unfold roundSpec
  generalize lowerMultiple x inc = l at *
  rcases hm with rfl | rfl | rfl | rfl | rfl <;> dsimp only <;> omega

/-- halfEven resolves an exact tie to the even multiple. -/
theorem C07_halfEven_tie (x inc : Int) (h : 0 < inc) (ht : 2 * (x - lowerMultiple x inc) = inc) :
    (RoundI128.round x inc .halfEven / inc) % 2 = 0 := by
  rw [C07_round_eq_spec _ _ _ h]
  have hq := lowerMultiple_ediv x inc h
  have hq2 : (lowerMultiple x inc + inc) / inc = x / inc + 1 := by
    rw [Int.add_ediv_of_dvd_right (Int.dvd_refl _), hq, Int.ediv_self (Int.ne_of_gt h)]
  unfold roundSpec
  dsimp only
  rw [hq, if_neg (by omega), if_neg (by omega), if_neg (by omega)]
  split
  · rwa [hq]
  · rw [hq2]; omega

/-- Negation symmetry: rounding −x under a mode is minus rounding x under the negated mode
    (this is what `since` relies on). -/
theorem C07_neg_symm (x inc : Int) (mode : RMode) (h : 0 < inc) :
    RoundI128.round (-x) inc mode = - RoundI128.round x inc mode.negate :=
  RoundI128.round_neg x inc mode

/-- `negate` is an involution (so `since` ∘ `since` restores the mode). -/
theorem C07_negate_involutive (m : RMode) : m.negate.negate = m := RMode.negate_negate m

example : RoundI128.round 12 5 .halfExpand = 10 := by decide
example : RoundI128.round 13 5 .halfExpand = 15 := by decide
example : RoundI128.round (-14) 3 .halfExpand = -15 := by decide
example : RoundI128.round 25 10 .halfEven = 20 ∧ RoundI128.round 35 10 .halfEven = 40 := by decide
example : RoundI128.round (-25) 10 .halfCeil = -20 ∧ RoundI128.round (-25) 10 .halfFloor = -30 := by decide
example : (0:Int) < 5 := by decide

end TemporalModel

#print axioms TemporalModel.C07_round_eq_spec
#print axioms TemporalModel.C07_result_is_neighbour
#print axioms TemporalModel.C07_bracket
#print axioms TemporalModel.C07_multiple_fixed
#print axioms TemporalModel.C07_within_increment
#print axioms TemporalModel.C07_floor
#print axioms TemporalModel.C07_ceil
#print axioms TemporalModel.C07_half_nearest
#print axioms TemporalModel.C07_halfEven_tie
#print axioms TemporalModel.C07_neg_symm
#print axioms TemporalModel.C07_negate_involutive
