/-
  Props/C12.lean — property C12: the parsers accept exactly the Temporal grammar of their type.

  Spec/Grammar.lean + Spec/GrammarOps.lean *are* the grammar, written as a deterministic reader; the theorems below
  establish the type-specific rules the property names for every string, and that every accepted value is
  well-formed.  The implementation (the `ixdtf` crate plus temporal_rs' own rules) is compared with this reader on
  generated, mutated and random strings.
-/
import TemporalModel.Spec.GrammarOps
import TemporalModel.Spec.GrammarZoned
import TemporalModel.Props.C11
import TemporalModel.Lemmas.FormatLemmas
import TemporalModel.Lemmas.DateLemmas
import TemporalModel.Lemmas.DurationLemmas
namespace TemporalModel
open Gram

/-- The grammar's reader of exactly `n` digits is the one that reads the writers' output back (C11). -/
theorem digitsN_eq_takeDigits : digitsN = Fmt.takeDigits := rfl

/-- Exactly `n` digits are consumed, no more and no fewer. -/
theorem C12_digitsN (n : Nat) (cs : List Char) (v : Nat) (rest : List Char) (h : digitsN n cs = some (v, rest)) :
    ∃ ds, ds.length = n ∧ ds.all Fmt.isDigit = true ∧ cs = ds ++ rest ∧ v = Fmt.readNat ds := by
  rw [digitsN_eq_takeDigits, Fmt.takeDigits] at h
  split at h
  · rename_i hc
    cases h
    exact ⟨cs.take n, by rw [List.length_take]; omega, hc.2, (List.take_append_drop n cs).symm, rfl⟩
  · cases h

theorem digitsN6_zero (rest : List Char) :
    digitsN 6 ('0' :: '0' :: '0' :: '0' :: '0' :: '0' :: rest) = some (0, rest) := by
  rw [digitsN_eq_takeDigits]
  exact C11_digits_roundtrip 6 0 (by decide) rest

/-- **C12 (negative zero).** `-000000` is not a year, whatever follows (ASCII hyphen or U+2212). -/
theorem C12_no_negative_zero_year (rest : List Char) :
    year ('-' :: '0' :: '0' :: '0' :: '0' :: '0' :: '0' :: rest) = none ∧
    year ('−' :: '0' :: '0' :: '0' :: '0' :: '0' :: '0' :: rest) = none := by
  constructor
  · simp only [year, ↓Char.isValue, Char.reduceEq, imp_self, isMinus, or_false, decide_true, ↓reduceIte,
      digitsN6_zero]
  · simp only [year, ↓Char.isValue, Char.reduceEq, imp_self, isMinus, or_true, decide_true, ↓reduceIte,
      digitsN6_zero]

/-- **C12 (at most nine fractional digits).** A fraction is a separator followed by 1..9 digits, and no digit follows
it: a tenth digit makes the whole fraction unreadable. The value is below one second. -/
theorem C12_fraction_at_most_nine (c : Char) (r : List Char) (v : Nat) (rest : List Char)
    (h : fraction (c :: r) = some (v, rest)) :
    (c = '.' ∨ c = ',') ∧ ∃ ds, r = ds ++ rest ∧ 1 ≤ ds.length ∧ ds.length ≤ 9 ∧ ds.all Fmt.isDigit = true ∧
      (∀ x xs, rest = x :: xs → Fmt.isDigit x = false) ∧ v = Fmt.readNat ds * 10 ^ (9 - ds.length) := by
  unfold fraction at h
  simp only at h
  split at h
  · rename_i hc
    split at h
    · rename_i hl
      simp only [Option.some.injEq, Prod.mk.injEq] at h
      obtain ⟨hv, hr⟩ := h
      refine ⟨hc, r.takeWhile Fmt.isDigit, ?_, hl.1, hl.2, List.all_takeWhile, ?_, hv.symm⟩
      · rw [← hr, drop_takeWhile_length]; exact List.takeWhile_append_dropWhile.symm
      · intro x xs hx
        rw [← hr, drop_takeWhile_length] at hx
        have := List.head?_dropWhile_not Fmt.isDigit r
        rw [hx] at this
        exact this
    · cases h
  · cases h

/-- **C12 (values are well-formed).** Whatever string is accepted, the value produced is a real date inside the
representable range / a date-time inside the limits / an instant inside ±8.64e21 ns / a valid duration. -/
theorem C12_values_wellformed (cs : List Char) :
    (∀ d c, plainDate cs = some (d, c) → InRange d) ∧
    (∀ dt c, plainDateTime cs = some (dt, c) → isoDtWithinValidLimits dt.date dt.time = true) ∧
    (∀ ns, instant cs = some ns → -8640000000000000000000 ≤ ns ∧ ns ≤ 8640000000000000000000) ∧
    (∀ d, durationChecked cs = some d → d.ValidSpec) := by
  -- each reader ends in the checked constructor of its type: invert the `do` block down to it
  refine ⟨fun d c h => ?_, fun dt c h => ?_, fun ns h => ?_, fun d h => ?_⟩
  · simp only [plainDate, Option.bind_eq_bind, Option.bind_eq_some_iff] at h
    obtain ⟨r, -, h⟩ := h
    split at h
    · cases h
    · obtain ⟨cal, -, h⟩ := Option.bind_eq_some_iff.mp h
      split at h
      · rename_i dd ht; cases h; exact IsoDate.newWithOverflow_inRange _ ht
      · cases h
  · simp only [plainDateTime, Option.bind_eq_bind, Option.bind_eq_some_iff] at h
    obtain ⟨r, -, h⟩ := h
    split at h
    · cases h
    · obtain ⟨cal, -, h⟩ := Option.bind_eq_some_iff.mp h
      split at h
      · rename_i dd ht; cases h; exact plainDateTimeTryNew_limits _ ht
      · cases h
  · simp only [instant, Option.bind_eq_bind, Option.bind_eq_some_iff] at h
    obtain ⟨r, -, t, -, o, -, h⟩ := h
    split at h
    · rename_i hr; cases h; exact hr
    · cases h
  · simp only [durationChecked, Option.bind_eq_bind, Option.bind_eq_some_iff] at h
    obtain ⟨dd, -, h⟩ := h
    split at h
    · rename_i x hn; cases h
      exact Dur.new_valid _ hn
    · cases h

/-- **C12 (no UTC designator for plain types).** A string whose date-time part carries `Z` is rejected by the
PlainDate and PlainDateTime readers (and, through the same test, by year-month, month-day and time). -/
theorem C12_plain_rejects_Z (cs : List Char) (r : DateTimeRec) (h : dateTime cs = some r) (hz : r.offset = some POffset.z) :
    plainDate cs = none ∧ plainDateTime cs = none := by
  constructor
  · unfold plainDate; rw [h]; exact if_pos hz
  · unfold plainDateTime; rw [h]; exact if_pos hz

/-- **C12 (instants need a time and an offset or Z).** -/
theorem C12_instant_requires (cs : List Char) (r : DateTimeRec) (h : dateTime cs = some r) :
    (r.offset = none → instant cs = none) ∧ (r.time = none → instant cs = none) := by
  constructor
  · intro ho
    simp only [instant, h, ho, Option.bind_eq_bind, Option.bind_some, Option.bind_none, Option.bind_fun_none]
  · intro ht
    simp only [instant, h, ht, Option.bind_eq_bind, Option.bind_some, Option.bind_none]

/-- On annotations that are all calendar annotations only the second rule of `calendarOf` can reject. -/
theorem calendarOf_of_all_uca (anns : List Ann) (h : ∀ a ∈ anns, a.key = "u-ca".toList) :
    calendarOf anns =
      if anns.length ≥ 2 ∧ anns.any (·.critical) then none else some (anns.head?.map (·.value)) := by
  unfold calendarOf
  have hf : anns.filter (fun a => a.key = "u-ca".toList) = anns :=
    List.filter_eq_self.mpr (fun a ha => decide_eq_true (h a ha))
  have ha : anns.any (fun a => decide (a.critical = true ∧ a.key ≠ "u-ca".toList)) = false :=
    List.any_eq_false.mpr (fun a ha => by rw [decide_eq_true_eq]; exact fun hh => hh.2 (h a ha))
  simp only [hf]
  rw [ha, if_neg Bool.false_ne_true]

/-- **C12 (annotations).** An unknown annotation with the critical flag is rejected; so are several calendar
annotations when any of them is critical; otherwise the first calendar annotation is the one used. -/
theorem C12_annotation_rules (a : Ann) (anns : List Ann) :
    (a.critical = true → a.key ≠ "u-ca".toList → a ∈ anns → calendarOf anns = none) ∧
    (∀ c1 c2 : Ann, c1.key = "u-ca".toList → c2.key = "u-ca".toList → c1.critical = true ∨ c2.critical = true →
        calendarOf [c1, c2] = none) ∧
    (∀ c1 c2 : Ann, c1.key = "u-ca".toList → c2.key = "u-ca".toList → c1.critical = false → c2.critical = false →
        calendarOf [c1, c2] = some (some c1.value)) := by
  have two : ∀ c1 c2 : Ann, c1.key = "u-ca".toList → c2.key = "u-ca".toList → ∀ a ∈ [c1, c2], a.key = "u-ca".toList :=
    fun c1 c2 h1 h2 => List.forall_mem_cons.mpr ⟨h1, List.forall_mem_cons.mpr ⟨h2, fun _ h => nomatch h⟩⟩
  refine ⟨?_, ?_, ?_⟩
  · intro hc hk hm
    unfold calendarOf
    rw [if_pos (List.any_eq_true.mpr ⟨a, hm, decide_eq_true ⟨hc, hk⟩⟩)]
  · intro c1 c2 h1 h2 hc
    rw [calendarOf_of_all_uca _ (two c1 c2 h1 h2), if_pos ⟨Nat.le_refl 2, by
      simpa only [List.any_cons, List.any_nil, Bool.or_false, Bool.or_eq_true] using hc⟩]
  · intro c1 c2 h1 h2 hc1 hc2
    rw [calendarOf_of_all_uca _ (two c1 c2 h1 h2), if_neg (fun h => by
      simp only [List.any_cons, List.any_nil, hc1, hc2, Bool.or_self, Bool.false_eq_true, and_false] at h)]
    rfl

/-- **C12 (month codes).** `M00` is not a month code, `M00L` is. -/
theorem C12_month_code_zero : monthCode ['M', '0', '0'] = none ∧ monthCode ['M', '0', '0', 'L'] = some (0, true) := by
  decide

/-- The short year-month and month-day forms are accepted with the ISO calendar only. -/
theorem C12_short_forms :
    yearMonthShort ['2', '0', '2', '0', '-', '0', '5'] = some ((2020, 5), []) ∧
    yearMonthShort ['2', '0', '2', '0', '1', '3'] = none ∧
    monthDayShort ['-', '-', '0', '2', '-', '2', '9'] = some ((2, 29), []) ∧
    monthDayShort ['0', '2', '3', '0'] = none ∧ monthDaySyntactic ['0', '2', '3', '0'] = some ((2, 30), []) := by
  decide

/-- **Time-zone strings: nothing is altered silently.** When an ISO string names a zone by its numeric UTC offset
(no bracketed annotation), the zone's offset in minutes is exactly the offset written — a string whose offset has
seconds or a fraction names no zone; and a bracketed annotation, when present, is what decides. -/
theorem C12_zone_offset_exact (ns m : Int) (h : zoneOfParts (some (.num ns)) none = some (.off m)) :
    ns = m * 60000000000 := by
  unfold zoneOfParts at h
  simp only at h
  split at h
  · rename_i hz
    cases h
    exact (Int.ediv_mul_cancel (Int.dvd_of_emod_eq_zero hz)).symm
  · cases h

theorem C12_zone_annotation_decides (off : Option POffset) (crit : Bool) (n : List Char) :
    zoneOfParts off (some (crit, .name n)) = some (.name n) := rfl

theorem C12_zone_needs_offset_or_annotation : zoneOfParts none none = none := rfl

/-- **Zoned strings.** A ZonedDateTime string without a bracketed time zone is a RangeError whatever the options; a
relativeTo string without one is a plain date and then may not carry `Z`; with one, the date-time is resolved by the
wall-clock rules of C13 under (compatible, offset must match). -/
theorem C12_zoned_requires_annotation (cs : List Char) (r : DateTimeRec) (dis : Disamb) (oo : OffsetOpt)
    (h : dateTime cs = some r) (hz : r.tz = none) : zonedDateTime cs dis oo = .err .range := by
  unfold zonedDateTime
  rw [h]
  simp only [hz]

theorem C12_relative_plain_refuses_Z (cs : List Char) (r : DateTimeRec) (h : dateTime cs = some r)
    (hz : r.tz = none) (ho : r.offset = some .z) : relativeTo cs = .err .range := by
  unfold relativeTo
  rw [h]
  simp only [hz, ho]
  cases calendarId r.calendar <;> rfl

/-- A zoned string with the `Z` designator denotes the exact UTC instant of its date-time: the result does not depend
on the disambiguation or on the offset option (nor, by C13_exact_offset, on the zone's rules). -/
theorem C12_zoned_Z_is_exact (cs : List Char) (r : DateTimeRec) (t : PTime) (h : dateTime cs = some r)
    (ho : r.offset = some .z) (ht : r.time = some t) (dis dis' : Disamb) (oo oo' : OffsetOpt) :
    zonedDateTime cs dis oo = zonedDateTime cs dis' oo' := by
  unfold zonedDateTime
  rw [h]
  simp only [ho, ht, offsetParts, Option.map_some]
  cases r.tz with
  | none => rfl
  | some cid =>
    cases calendarId r.calendar with
    | none => rfl
    | some cal =>
      simp only
      cases IsoDate.newWithOverflow r.date.year r.date.month r.date.day .reject with
      | ok d =>
        -- with `Z` (and a time, `ht`) `interpretOffset` takes its exact branch, which reads neither option
        simp only [Out.bind_ok]; unfold interpretOffset; rfl
      | err k => rfl
      | panic => rfl

theorem C12_unparsable_is_range (cs : List Char) (dis : Disamb) (oo : OffsetOpt) (h : dateTime cs = none) :
    zonedDateTime cs dis oo = .err .range ∧ relativeTo cs = .err .range := by
  unfold zonedDateTime relativeTo
  rw [h]
  exact ⟨rfl, rfl⟩

end TemporalModel

#print axioms TemporalModel.C12_digitsN
#print axioms TemporalModel.C12_no_negative_zero_year
#print axioms TemporalModel.C12_fraction_at_most_nine
#print axioms TemporalModel.C12_values_wellformed
#print axioms TemporalModel.C12_plain_rejects_Z
#print axioms TemporalModel.C12_instant_requires
#print axioms TemporalModel.C12_annotation_rules
#print axioms TemporalModel.C12_month_code_zero
#print axioms TemporalModel.C12_short_forms
#print axioms TemporalModel.C12_zone_offset_exact
#print axioms TemporalModel.C12_zoned_requires_annotation
#print axioms TemporalModel.C12_relative_plain_refuses_Z
#print axioms TemporalModel.C12_zoned_Z_is_exact
