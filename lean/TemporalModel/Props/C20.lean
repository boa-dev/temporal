/-
  Props/C20.lean — property C20: the shared provider is thread-safe and survives failed calls.
  A coherent cache answers every look-up as the file system would and stays coherent (`cacheGet_spec`), and
  `stepRecover` never reads the poison flag: what a call observes is a function of the call alone.
-/
import TemporalModel.Model.Shared
import TemporalModel.Lemmas.ZoneLemmas
namespace TemporalModel

theorem lookupAll_spec (read : String → Option RawZone) (c : ZoneCache) (hc : ZoneCache.Coherent read c) (ids : List String) :
    (lookupAll read c ids).1 = ids.map read ∧ ZoneCache.Coherent read (lookupAll read c ids).2 := by
  induction ids generalizing c with
  | nil => exact ⟨rfl, hc⟩
  | cons id rest ih =>
    obtain ⟨h1, h2⟩ := cacheGet_spec read c id hc
    obtain ⟨i1, i2⟩ := ih _ h2
    unfold lookupAll
    simp only [List.map_cons]
    exact ⟨by rw [h1, i1], i2⟩

/-- **C20 (every call answers as if alone).** Whatever calls ran before — other threads' calls, in any order, with
any zones cold or warm in the cache, including calls that failed or panicked while holding the lock — each call
observes exactly what it would observe alone on a fresh provider. -/
theorem C20_history_independent (read : String → Option RawZone) (s : Shared) (hs : ZoneCache.Coherent read s.cache)
    (h : List Call) : runShared (stepRecover read) s h = h.map (alone read) := by
  induction h generalizing s with
  | nil => rfl
  | cons c rest ih =>
    obtain ⟨l1, l2⟩ := lookupAll_spec read s.cache hs c.zones
    have hstep : (stepRecover read s c).2 = alone read c ∧ ZoneCache.Coherent read (stepRecover read s c).1.cache := by
      unfold stepRecover alone
      cases c.panics with
      | false => exact ⟨congrArg Observed.answered l1, l2⟩
      | true => exact ⟨rfl, l2⟩
    simp only [runShared, List.map_cons, hstep.1]
    rw [ih _ hstep.2]

/-- **C20 (interleavings).** Two interleavings of the same per-thread call sequences give every thread the same
sequence of observations: results do not depend on how concurrent calls interleave. -/
theorem C20_interleaving_independent (read : String → Option RawZone) (s : Shared) (hs : ZoneCache.Coherent read s.cache)
    (h1 h2 : List Call) (k : Nat) (hk : h1.filter (fun c => c.thread = k) = h2.filter (fun c => c.thread = k)) :
    ((h1.zip (runShared (stepRecover read) s h1)).filter (fun p => p.1.thread = k)).map (·.2) =
    ((h2.zip (runShared (stepRecover read) s h2)).filter (fun p => p.1.thread = k)).map (·.2) := by
  rw [C20_history_independent read s hs h1, C20_history_independent read s hs h2]
  have key : ∀ h : List Call, ((h.zip (h.map (alone read))).filter (fun p => p.1.thread = k)).map (·.2) =
      (h.filter (fun c => c.thread = k)).map (alone read) := by
    intro h
    induction h with
    | nil => rfl
    | cons c rest ih =>
      simp only [List.map_cons, List.zip_cons_cons, List.filter_cons]
      cases decide (c.thread = k) with
      | false => exact ih
      | true => exact congrArg (alone read c :: ·) ih
  rw [key h1, key h2, hk]

/-- **C20 (no deadlock).** Every call takes the single lock once and releases it when it returns or unwinds: a call
always completes in one step from any state, so any history runs to its end. -/
theorem C20_progress (read : String → Option RawZone) (s : Shared) (h : List Call) :
    (runShared (stepRecover read) s h).length = h.length := by
  induction h generalizing s with
  | nil => rfl
  | cons c rest ih => rw [runShared, List.length_cons, List.length_cons, ih]

/-- **C20 (a failed call does not disable the provider).** After a call that panicked while holding the lock, the next
call is answered as if alone. -/
theorem C20_survives_panic (read : String → Option RawZone) (s : Shared) (hs : ZoneCache.Coherent read s.cache)
    (bad good : Call) (hb : bad.panics = true) (hg : good.panics = false) :
    runShared (stepRecover read) s [bad, good] = [.panicked, .answered (good.zones.map read)] := by
  rw [C20_history_independent read s hs]
  show [alone read bad, alone read good] = _
  unfold alone
  rw [hb, hg]
  rfl

/-- The behaviour before the fix, for the record: with a strict (poisoning) lock the call after a panic fails. -/
theorem C20_strict_lock_fails_after_panic (read : String → Option RawZone) (bad good : Call) (hb : bad.panics = true) :
    ∃ o, runShared (stepStrict read) ⟨[], false⟩ [bad, good] = [.panicked, o] ∧ o = .lockFailed := by
  refine ⟨.lockFailed, ?_, rfl⟩
  simp only [runShared, stepStrict, stepRecover, hb, Bool.false_eq_true, ↓reduceIte]

end TemporalModel

#print axioms TemporalModel.C20_history_independent
#print axioms TemporalModel.C20_interleaving_independent
#print axioms TemporalModel.C20_progress
#print axioms TemporalModel.C20_survives_panic
#print axioms TemporalModel.C20_strict_lock_fails_after_panic
