/-
  Props/C15.lean — property C15: the bundled provider reports what the TZif data say.

  `RawZone` (Model/Tzif.lean) is the reading of a TZif file; the theorems characterise that reading — table lookup,
  the POSIX rule days, the instants of a local date-time, the cache — and the correspondence run compares the
  provider's answers with it for every zone of the zoneinfo directory.
-/
import TemporalModel.Model.Tzif
import TemporalModel.Lemmas.DateLemmas
import TemporalModel.Lemmas.ZoneLemmas
namespace TemporalModel
open Greg

/-- **C15 (`Mm.w.d`).** For every year, month 1..12, week 1..5 and weekday 0..6 the rule day lies inside the month,
falls on the requested weekday, is the `w`-th such weekday of the month for `w ≤ 4` (or the last one if the month
has only four), and for `w = 5` is the last such weekday of the month. -/
theorem C15_rule_day_mwd (y m w d : Int) (_hm : 1 ≤ m ∧ m ≤ 12) (hw : 1 ≤ w ∧ w ≤ 5) (hd : 0 ≤ d ∧ d ≤ 6) :
    let n := (RuleDay.mwd m w d).epochDay y
    let first := dayNumber y m 1
    let last := dayNumber y m (dim y m)
    first ≤ n ∧ n ≤ last ∧ weekday0 n = d ∧
    (∃ k, 0 ≤ k ∧ k ≤ w - 1 ∧ n = first + (d - weekday0 first) % 7 + 7 * k ∧ (k < w - 1 → last < n + 7)) ∧
    (w = 5 → last < n + 7) := by
  intro n first last
  have hdim := dim_bounds y m
  have hl : last = first + dim y m - 1 := by
    show dayNumber y m (dim y m) = dayNumber y m 1 + dim y m - 1
    unfold dayNumber; omega
  have hn : n = (if first + (d - weekday0 first) % 7 + 7 * (w - 1) > first + dim y m - 1
      then first + (d - weekday0 first) % 7 + 7 * (w - 1) - 7 else first + (d - weekday0 first) % 7 + 7 * (w - 1)) := rfl
  unfold weekday0 at *
  rw [hn, hl]
  split
  · refine ⟨by omega, by omega, by omega, ⟨w - 2, by omega, by omega, by omega, by omega⟩, by omega⟩
  · refine ⟨by omega, by omega, by omega, ⟨w - 1, by omega, by omega, by omega, by omega⟩, by omega⟩

/-- **C15 (`Jn` and `n`).** `Jn` never counts February 29: day 59 is February 28 and day 60 is March 1 in every
year; the zero-based form counts it. -/
theorem C15_rule_day_julian (y : Int) :
    (RuleDay.julian 59).epochDay y = dayNumber y 2 28 ∧ (RuleDay.julian 60).epochDay y = dayNumber y 3 1 ∧
    (RuleDay.julian 1).epochDay y = dayNumber y 1 1 ∧ (RuleDay.julian 365).epochDay y = dayNumber y 12 31 ∧
    (RuleDay.zeroBased 0).epochDay y = dayNumber y 1 1 ∧
    (RuleDay.zeroBased 59).epochDay y = (if isLeap y then dayNumber y 2 29 else dayNumber y 3 1) := by
  unfold RuleDay.epochDay dayNumber monthStart
  by_cases h : isLeap y = true <;>
    simp only [h, Bool.false_eq_true, ge_iff_le, Int.reduceLE, Int.reduceEq, and_true, and_false, and_self,
      ↓reduceIte] <;>
    omega

/-- The rule's transitions are taken on the right clocks: daylight time starts at `startTime` read on the standard
clock, and ends at `stopTime` read on the daylight clock. -/
theorem C15_rule_transitions (r : DstRule) (std y : Int) :
    r.transitions std y =
      [((r.start.epochDay y * 86400 + r.startTime) - std, r.offset),
       ((r.stop.epochDay y * 86400 + r.stopTime) - r.offset, std)] := rfl

private theorem fold_skip {β γ} (f : Int × β → γ) (t : Int) (l : List (Int × β)) (acc : γ) (h : ∀ tr ∈ l, t < tr.1) :
    l.foldl (fun acc tr => if tr.1 ≤ t then f tr else acc) acc = acc := by
  induction l generalizing acc with
  | nil => rfl
  | cons tr rest ih =>
    simp only [List.foldl_cons]
    rw [if_neg (by have := h tr (List.mem_cons_self ..); omega)]
    exact ih acc (fun x hx => h x (List.mem_cons_of_mem _ hx))

/-- **C15 (before the first transition).** Before every listed transition the zone is on time type 0. -/
theorem C15_table_before_first (z : RawZone) (t : Int) (h : ∀ tr ∈ z.trans, t < tr.1) :
    z.tableOffset t = z.typeOffset 0 := by
  unfold RawZone.tableOffset; exact fold_skip _ t _ _ h

/-- **C15 (between transitions, and at the transition second itself).** If `(T, i)` is the last listed transition
with `T ≤ t` — `T = t` included — the offset is that of time type `i`. -/
theorem C15_table_lookup (z : RawZone) (pre suf : List (Int × Nat)) (T : Int) (i : Nat) (t : Int)
    (hz : z.trans = pre ++ (T, i) :: suf) (hT : T ≤ t) (hsuf : ∀ tr ∈ suf, t < tr.1) :
    z.tableOffset t = z.typeOffset i := by
  unfold RawZone.tableOffset
  rw [hz, List.foldl_append, List.foldl_cons, if_pos hT]
  exact fold_skip _ t suf _ hsuf

/-- **C15 (which part of the file answers).** From the last listed transition on, the footer rule answers (or the last
time type when there is no footer); before it, the table; with an empty table, the footer or time type 0. -/
theorem C15_offset_cases (z : RawZone) (t : Int) :
    (z.trans.getLast? = none → z.offsetAt t = (match z.footer with | some p => p.offsetAt t | none => z.typeOffset 0)) ∧
    (∀ lastT lastI, z.trans.getLast? = some (lastT, lastI) →
      (lastT ≤ t → z.offsetAt t = (match z.footer with | some p => p.offsetAt t | none => z.typeOffset lastI)) ∧
      (t < lastT → z.offsetAt t = z.tableOffset t)) := by
  refine ⟨fun h => ?_, fun lastT lastI h => ⟨fun h1 => ?_, fun h1 => ?_⟩⟩
  · unfold RawZone.offsetAt; simp only [h]; cases z.footer <;> rfl
  · unfold RawZone.offsetAt; simp only [h, ge_iff_le, if_pos h1]; cases z.footer <;> rfl
  · unfold RawZone.offsetAt; simp only [h, ge_iff_le]; rw [if_neg (by omega)]

/-- A footer without daylight time prescribes its standard offset at every instant. -/
theorem C15_footer_fixed (std t : Int) : (⟨std, none⟩ : PosixTz).offsetAt t = std := rfl

/-- **C15 (local date-time → instants).** Every instant listed for a local reading does read as it (instant plus
the offset in force at that instant), and every instant that reads as it is listed, provided its offset is one the
file mentions. The list is ascending. -/
theorem C15_possible_iff (z : RawZone) (localSec t : Int) :
    (t ∈ z.possible localSec → t + z.offsetAt t = localSec) ∧
    (t + z.offsetAt t = localSec → z.offsetAt t ∈ z.offsets → t ∈ z.possible localSec) ∧
    (z.possible localSec).Pairwise (· ≤ ·) :=
  have h := mem_candidates_iff z.offsets z.offsetAt (fun o => o) localSec t
  ⟨fun hm => (h.mp hm).1, fun h1 h2 => h.mpr ⟨h1, h2⟩, pairwise_mergeSort_le _⟩

/-- **C15 (history independence).** Whatever zones were queried before, in whatever order, each answer of the
caching provider is what a fresh read of that zone gives. -/
theorem C15_cache_history_independent (read : String → Option RawZone) (c : ZoneCache) (hc : ZoneCache.Coherent read c)
    (ids : List String) : cacheRun read c ids = ids.map read := by
  induction ids generalizing c with
  | nil => rfl
  | cons id rest ih =>
    obtain ⟨h1, h2⟩ := cacheGet_spec read c id hc
    simp only [cacheRun, List.map_cons, h1]
    rw [ih _ h2]

/-- A fresh provider starts coherent. -/
theorem C15_empty_cache_coherent (read : String → Option RawZone) : ZoneCache.Coherent read [] :=
  fun _ _ h => nomatch h

/-! Concrete rule days: the last Sunday of March 2041 is the 31st; the second Sunday of March 2038 is the 14th; the last
    Sunday of October 2038 is the 31st. And two footers as the parser reads them (`CET-1CEST,M3.5.0,M10.5.0/3`, and one
    with quoted names and a negative transition time). -/
example : (RuleDay.mwd 3 5 0).epochDay 2041 = dayNumber 2041 3 31 := by decide
example : (RuleDay.mwd 3 2 0).epochDay 2038 = dayNumber 2038 3 14 := by decide
example : (RuleDay.mwd 10 5 0).epochDay 2038 = dayNumber 2038 10 31 := by decide
example : PosixParse.tzChars ['C','E','T','-','1','C','E','S','T',',','M','3','.','5','.','0',',','M','1','0','.','5','.','0','/','3'] =
    some ⟨3600, some ⟨7200, .mwd 3 5 0, 7200, .mwd 10 5 0, 10800⟩⟩ := by decide +kernel
example : PosixParse.tzChars ['<','-','0','2','>','2','<','-','0','1','>',',','M','3','.','5','.','0','/','-','1',',','M','1','0','.','5','.','0','/','0'] =
    some ⟨-7200, some ⟨-3600, .mwd 3 5 0, -3600, .mwd 10 5 0, 0⟩⟩ := by decide +kernel

end TemporalModel

#print axioms TemporalModel.C15_rule_day_mwd
#print axioms TemporalModel.C15_rule_day_julian
#print axioms TemporalModel.C15_rule_transitions
#print axioms TemporalModel.C15_table_before_first
#print axioms TemporalModel.C15_table_lookup
#print axioms TemporalModel.C15_offset_cases
#print axioms TemporalModel.C15_footer_fixed
#print axioms TemporalModel.C15_possible_iff
#print axioms TemporalModel.C15_cache_history_independent
#print axioms TemporalModel.C15_empty_cache_coherent
