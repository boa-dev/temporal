/-
  Props/C19.lean — property C19: the convenience layer and the FFI layer are thin.

  `TemporalModel.Generated.Wrappers` is regenerated from /repo's working tree by tools/translate_wrappers.py on
  every run (translator tie): one row per wrapper method — its name, its parameters, the inner method it calls and
  the parameter each call argument is built from — plus the enum tables and the field maps of the FFI value structs.
  The theorems below are about *that* table: they are re-checked against what the code says now.
-/
import TemporalModel.Generated.Wrappers
namespace TemporalModel
open Generated

/-- The inner method a convenience wrapper must call: its own name + `_with_provider` (two irregular names). -/
def compiledCallee (w : Wrapper) : String :=
  if w.type == "Now" then w.name ++ "_with_provider_and_system_info"
  else if w.name == "with_plain_time" then "with_plain_time_and_provider"
  else w.name ++ "_with_provider"

/-- FFI constructors are called `create…` where the core says `new…`; everything else keeps its name. -/
def capiAlias : String → List String
  | "create" => ["new", "create"]
  | "try_create" => ["try_new"]
  | "create_with_overflow" => ["new_with_overflow"]
  | "try_create_with_overflow" => ["try_new_with_overflow", "new_with_overflow"]
  | n => [n]

/-- A wrapper is thin: it calls the method of the same name and passes its own parameters, each exactly once, in
    order — followed by the provider (convenience layer; `Now` first reads the system clock), or minus the
    output sink `write` (FFI layer). A convenience wrapper's body consists of exactly the lock acquisition and the
    forwarding call as its tail expression. -/
def thin (w : Wrapper) : Bool :=
  if w.layer == "compiled" then
    w.callee == compiledCallee w &&
      w.args == (if w.type == "Now" then ["lit:local"] ++ w.params ++ ["provider"] else w.params ++ ["provider"]) &&
      -- the body is: take the provider lock; forward: no statement in between that could rebind, filter or replace an
      -- argument or the result.  A `Now` function first defaults the zone and reads the clock (the instant it passes
      -- is a local, `lit:local`): one to three more statements, however they are grouped; what they compute is
      -- decided by the differential run (`w19_now`: the wrapper's answer lies between the core's answers for clock
      -- readings taken before and after it)
      (if w.type == "Now" then 3 ≤ w.stmts && w.stmts ≤ 5 else w.stmts == 2)
  else
    (capiAlias w.name).contains w.callee && w.args == w.params.filter (· != "write")

/-- Rows the translator reads in a different shape, audited by hand (each is matched *exactly*: any change to one of
    these methods changes its row and fails the theorem):
    * `get_for_bcp47_string` forwards to the byte-slice variant of the same lookup;
    * `PartialDuration::is_empty` converts and asks the core record;
    * `Duration::time/date`, `*::calendar` return a transparent view of the inner field of the same name;
    * `Instant::try_new` reassembles the two words of the 128-bit value before calling `try_new`;
    * `PlainDateTime::to_ixdtf_string` formats through the core method and copies the text into the sink. -/
def audited : List Wrapper := [
  ⟨"capi", "AnyCalendarKind", "get_for_bcp47_string", ["s"], "get_for_bcp47_bytes", ["s"], 0⟩,
  ⟨"capi", "PartialDuration", "is_empty", ["self"], "try_from", ["self"], 0⟩,
  ⟨"capi", "Duration", "time", [], "transparent_convert", ["self"], 0⟩,
  ⟨"capi", "Duration", "date", [], "transparent_convert", ["self"], 0⟩,
  ⟨"capi", "Instant", "try_new", ["ns"], "try_new", ["lit:local"], 0⟩,
  ⟨"capi", "PlainDate", "calendar", [], "transparent_convert", ["self"], 0⟩,
  ⟨"capi", "PlainDateTime", "calendar", [], "transparent_convert", ["self"], 0⟩,
  ⟨"capi", "PlainDateTime", "to_ixdtf_string", ["self", "options", "display_calendar", "write"], "?", [], 0⟩,
  ⟨"capi", "PlainMonthDay", "calendar", [], "transparent_convert", ["self"], 0⟩,
  ⟨"capi", "PlainYearMonth", "calendar", [], "transparent_convert", ["self"], 0⟩
]

/-- **C19 (wrappers).** Every method of the convenience layer and every exported FFI function calls the core method
of its own name with its own arguments in order — or is one of the ten audited rows. -/
theorem C19_wrappers_thin : wrappers.all (fun w => thin w || audited.contains w) = true := by decide +kernel

/-- No convenience wrapper is exempt: all of them satisfy the rule itself. -/
theorem C19_compiled_all_thin : (wrappers.filter (·.layer == "compiled")).all thin = true := by decide +kernel

/-- Each convenience accessor calls its own twin — in particular no two accessors share a callee. -/
theorem C19_compiled_callees_distinct :
    ((wrappers.filter (·.layer == "compiled")).map (fun w => (w.type, w.callee))).Nodup := by decide +kernel

/-- **C19 (enum conversions).** Every converted FFI enum has exactly the variants of the core enum it converts to,
in the same order, so the by-name conversion maps every variant to the variant of the same name. -/
theorem C19_enums_same_variants : enumMaps.all (fun e => e.ffiVariants == e.coreVariants) = true := by decide +kernel

/-- **C19 (value structs).** Every field of a converted FFI struct is filled from the field of the same name. -/
theorem C19_fields_same_name : fieldMaps.all (fun f => f.field == f.source) = true := by decide +kernel

/-- The tables are not empty (the translator found the layers). -/
theorem C19_tables_nonempty :
    40 ≤ (wrappers.filter (·.layer == "compiled")).length ∧ 150 ≤ (wrappers.filter (·.layer == "capi")).length ∧
    10 ≤ enumMaps.length ∧ 40 ≤ fieldMaps.length := by
  -- round numbers a little under the 45 / 187 / 13 / 47 rows of the table this was written against: a regenerated
  -- table that has lost a layer fails here, one that has grown does not
  decide +kernel

end TemporalModel

#print axioms TemporalModel.C19_wrappers_thin
#print axioms TemporalModel.C19_compiled_all_thin
#print axioms TemporalModel.C19_compiled_callees_distinct
#print axioms TemporalModel.C19_enums_same_variants
#print axioms TemporalModel.C19_fields_same_name
#print axioms TemporalModel.C19_tables_nonempty
