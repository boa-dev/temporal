/-
  Props/C06.lean — property C06: times are integers mod 24 h, instants integers on the epoch line.
-/
import TemporalModel.Lemmas.TimeLemmas
import TemporalModel.Lemmas.SplitLemmas
namespace TemporalModel
open Dur

/-- **PlainTime add/subtract = exact addition modulo 24 h**, for every time of day and every time duration
    (any magnitude: the total is an unbounded integer). -/
theorem C06_time_add_mod (t : IsoTime) (d : Dur) (ht : t.isValid = true) (hd : d.isTimeDuration = true) :
    ∃ t', plainTimeAdd t d = .ok t' ∧ t'.isValid = true ∧ t'.toNs = (t.toNs + d.timeNs) % 86400000000000 := by
  have h := timeAddNorm_exact t d.timeNs
  have hr := IsoTime.toNs_range _ h.2
  refine ⟨(timeAddNorm t d.timeNs).2, ?_, h.2, ?_⟩
  · unfold plainTimeAdd; rw [hd]; rfl
  · omega

theorem C06_time_subtract (t : IsoTime) (d : Dur) (ht : t.isValid = true) (hd : d.isTimeDuration = true) :
    ∃ t', plainTimeSubtract t d = .ok t' ∧ t'.isValid = true ∧ t'.toNs = (t.toNs - d.timeNs) % 86400000000000 := by
  obtain ⟨t', h1, h2, h3⟩ := C06_time_add_mod t d.negated ht ((Dur.negated_isTimeDuration d).trans hd)
  exact ⟨t', h1, h2, by rw [h3, Dur.negated_timeNs]; rfl⟩

/-- Times refuse calendar and day units. -/
theorem C06_time_rejects_date_units (t : IsoTime) (d : Dur) (hd : d.isTimeDuration = false) :
    plainTimeAdd t d = .err .range ∧ plainTimeSubtract t d = .err .range := by
  unfold plainTimeSubtract plainTimeAdd
  rw [Dur.negated_isTimeDuration, hd]
  exact ⟨rfl, rfl⟩

/-- **Instant add = exact integer addition, range-checked**; date units refused. -/
theorem C06_instant_add (i : Int) (d : Dur) :
    (d.isTimeDuration = true →
      instantAdd i d = (if -8640000000000000000000 ≤ i + d.timeNs ∧ i + d.timeNs ≤ 8640000000000000000000
                        then .ok (i + d.timeNs) else .err .range)) ∧
    (d.isTimeDuration = false → instantAdd i d = .err .range ∧ instantSubtract i d = .err .range) := by
  unfold instantAdd instantSubtract instantTryNew nsMaxInstant
  exact ⟨fun h => by rw [h]; rfl, fun h => by rw [h]; exact ⟨rfl, rfl⟩⟩

theorem C06_instant_subtract (i : Int) (d : Dur) (h : d.isTimeDuration = true) :
    instantSubtract i d = (if -8640000000000000000000 ≤ i - d.timeNs ∧ i - d.timeNs ≤ 8640000000000000000000
                        then .ok (i - d.timeNs) else .err .range) := by
  unfold instantSubtract instantTryNew nsMaxInstant
  simp only [h, Bool.not_true, Bool.false_eq_true, if_false, Dur.negated_timeNs, ← Int.sub_eq_add_neg]

/-- Epoch milliseconds are the floor of epoch nanoseconds / 10^6, also for negative instants. -/
theorem C06_epoch_ms_floor (ns : Int) :
    instantEpochMs ns * 1000000 ≤ ns ∧ ns < (instantEpochMs ns + 1) * 1000000 := by
  unfold instantEpochMs; omega

theorem C06_from_ms_roundtrip (ms : Int) (h : (ms * 1000000).natAbs ≤ 8640000000000000000000) :
    instantFromEpochMs ms = .ok (ms * 1000000) ∧ instantEpochMs (ms * 1000000) = ms := by
  unfold instantFromEpochMs instantTryNew nsMaxInstant instantEpochMs
  refine ⟨?_, by omega⟩
  rw [if_pos]; omega

theorem C06_instant_until_exact (a b : Int) (ha : a.natAbs ≤ 8640000000000000000000)
    (hb : b.natAbs ≤ 8640000000000000000000) (L : TUnit) (k : Nat) (hk : balanceDepth L = some k) (h3 : 3 ≤ k) :
    ∃ r, timeFromNormalized (b - a) L = .ok r ∧ r.totalNs = b - a ∧ r.ValidSpec := by
  obtain ⟨r, h1, h2, h3', _⟩ := timeFromNormalized_exact (b - a) L k hk h3 (by unfold MAX_TIME_DURATION; omega)
  exact ⟨r, h1, h2, h3'⟩

/-- **until/since without rounding return the exact difference**, balanced to the largest unit (seconds or
    above: every field is exact; for smaller largest units the top field is the nearest double). -/
theorem C06_time_until_exact (a b : IsoTime) (ha : a.isValid = true) (hb : b.isValid = true) (L : TUnit) (k : Nat)
    (hk : balanceDepth L = some k) (h3 : 3 ≤ k) :
    ∃ r, timeFromNormalized (timeDiffNs a b) L = .ok r ∧ r.totalNs = b.toNs - a.toNs ∧ r.ValidSpec := by
  have ra := IsoTime.toNs_range a ha
  have rb := IsoTime.toNs_range b hb
  rw [timeDiffNs_eq]
  exact C06_instant_until_exact a.toNs b.toNs (by omega) (by omega) L k hk h3

/-! Witnesses (kernel-decided): a total beyond `i64`, `00:00 + 1e19 ns = 17:46:40`; the floor of a negative instant. -/
example : plainTimeAdd ⟨0, 0, 0, 0, 0, 0⟩ ⟨0, 0, 0, 0, 0, 0, 0, 0, 0, 10000000000000000000⟩
    = .ok ⟨17, 46, 40, 0, 0, 0⟩ := by decide
example : instantEpochMs (-1) = -1 := by decide

end TemporalModel

#print axioms TemporalModel.C06_time_add_mod
#print axioms TemporalModel.C06_time_subtract
#print axioms TemporalModel.C06_time_rejects_date_units
#print axioms TemporalModel.C06_instant_add
#print axioms TemporalModel.C06_instant_subtract
#print axioms TemporalModel.C06_epoch_ms_floor
#print axioms TemporalModel.C06_from_ms_roundtrip
#print axioms TemporalModel.C06_time_until_exact
#print axioms TemporalModel.C06_instant_until_exact
