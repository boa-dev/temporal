/-
  Props/C05.lean — property C05: PlainDateTime arithmetic, difference and rounding compose date and exact time.
-/
import TemporalModel.Lemmas.TimeLemmas
import TemporalModel.Model.DateTime
import TemporalModel.Lemmas.RoundLemmas
namespace TemporalModel

/-- **AddTime is nanosecond-exact with carry into whole days**: for every time of day and every normalized time
    duration, `86400e9·days + ns(time') = ns(time) + duration` and `time'` is a valid time of day. -/
theorem C05_time_add_exact (t : IsoTime) (n : Int) :
    (timeAddNorm t n).1 * 86400000000000 + (timeAddNorm t n).2.toNs = t.toNs + n ∧
    (timeAddNorm t n).2.isValid = true :=
  timeAddNorm_exact t n

/-- **AddDateTime composes**: the time part is added exactly, its day carry joins the duration's days, and the date
    part is then added as for plain dates (C04); a result outside the limits is a RangeError. -/
theorem C05_add_compose (dt : IsoDateTime) (du : Dur) (ov : Overflow)
    (hn : (du.timeNs.natAbs : Int) ≤ NS_PER_DAY * 2 * MAX_EPOCH_DAYS) :
    plainDateTimeAdd dt du ov =
      (do let dd ← Dur.new ⟨du.years, du.months, du.weeks,
                   F64.ofInt (du.days + wrapI32 (timeAddNorm dt.time du.timeNs).1), 0, 0, 0, 0, 0, 0⟩
          let added ← plainDateAdd dt.date dd ov
          if isoDtWithinValidLimits added (timeAddNorm dt.time du.timeNs).2
          then pure ⟨added, (timeAddNorm dt.time du.timeNs).2⟩ else .err .range) := by
  unfold plainDateTimeAdd IsoDateTime.addDateDuration
  rw [if_neg (by omega)]
  simp only [Out.bind_assoc, Out.pure_eq_ok, Out.bind_ok]

/-- Inside the guard the 32-bit day carry is exact (no wrap). -/
theorem C05_carry_no_wrap (t : IsoTime) (n : Int) (ht : t.isValid = true)
    (hn : (n.natAbs : Int) ≤ NS_PER_DAY * 2 * MAX_EPOCH_DAYS) :
    wrapI32 (timeAddNorm t n).1 = (timeAddNorm t n).1 := by
  have h := timeAddNorm_exact t n
  have hr := IsoTime.toNs_range _ h.2
  have h0 := IsoTime.toNs_range t ht
  unfold NS_PER_DAY MAX_EPOCH_DAYS at hn
  unfold wrapI32
  omega

/-- A time duration longer than the whole representable range is a RangeError (never a wrapped value). -/
theorem C05_add_huge_time (dt : IsoDateTime) (du : Dur) (ov : Overflow)
    (hn : (du.timeNs.natAbs : Int) > NS_PER_DAY * 2 * MAX_EPOCH_DAYS) :
    plainDateTimeAdd dt du ov = .err .range := by
  unfold plainDateTimeAdd IsoDateTime.addDateDuration
  rw [if_pos hn]; rfl

/-- **RoundTime to hours (or to a day) is RoundNumberToIncrement counted from midnight**, carried into the next
    day when it reaches 24 h: `86400e9·days + ns(time') = roundSpec(ns(time), inc·len, mode)`. -/
theorem C05_round_hour (t : IsoTime) (inc : Int) (mode : RMode) (ht : t.isValid = true) (hinc : 0 < inc) :
    ∃ days t', t.round ⟨.auto, .hour, inc, mode⟩ = .ok (days, t') ∧ t'.isValid = true ∧
      days * 86400000000000 + t'.toNs = roundSpec t.toNs (inc * 3600000000000) mode := by
  have hq : 0 < inc * 3600000000000 := Int.mul_pos hinc (by decide)
  have hround : t.round ⟨.auto, .hour, inc, mode⟩ =
      .ok (IsoTime.balance (Int.tdiv (roundSpec t.toNs (inc * 3600000000000) mode) 3600000000000) 0 0 0 0 0) := by
    unfold IsoTime.round IsoTime.roundQuantity TUnit.asNanoseconds
    have ec : ((3600000000000 : Nat) : Int) = 3600000000000 := rfl
    simp only [ec, RoundI128.round_eq_spec _ _ _ hq]
  have hb := IsoTime.balance_exact (Int.tdiv (roundSpec t.toNs (inc * 3600000000000) mode) 3600000000000) 0 0 0 0 0
  have hd := roundSpec_tdiv_mul t.toNs inc 3600000000000 mode
  exact ⟨(IsoTime.balance _ 0 0 0 0 0).1, (IsoTime.balance _ 0 0 0 0 0).2, hround, hb.2, by rw [hb.1]; omega⟩

/-- The general commutation law behind the sub-hour units: rounding commutes with adding whole increments. -/
theorem C05_round_shift (x q k : Int) (mode : RMode) (hq : 0 < q) (hx : 0 ≤ x) (hk : 0 ≤ k)
    (hpar : mode ≠ .halfEven ∨ k % 2 = 0) :
    roundSpec (x + q * k) q mode = roundSpec x q mode + q * k := by
  have h := roundSpec_congr (x + q * k) x q mode hq (Int.add_mul_emod_self_left x q k)
    (by have := Int.mul_nonneg (Int.le_of_lt hq) hk; omega)
    (fun hm => by have := hpar.resolve_left (· hm); rw [Int.add_mul_ediv_left x k (Int.ne_of_gt hq)]; omega)
  unfold lowerMultiple at h
  rw [Int.add_mul_ediv_left x k (Int.ne_of_gt hq), Int.mul_add] at h
  omega

/-- Counter-example to the literal "even multiple counted from midnight" reading for sub-hour units: at 01:10 with
    20-minute increments the coded RoundTime (quantity counted from the start of the hour, as ECMAScript Temporal's
    RoundTime specifies) resolves the halfEven tie to 01:00, whereas counted from midnight 01:20 is the even multiple.
    Recorded as known finding C05-halfeven-container-parity. -/
theorem C05_round_halfEven_counterexample :
    plainTimeRound ⟨1, 10, 0, 0, 0, 0⟩ .minute 20 (some .halfEven) = .ok ⟨1, 0, 0, 0, 0, 0⟩ ∧
    roundSpec (IsoTime.toNs ⟨1, 10, 0, 0, 0, 0⟩) (20 * 60000000000) .halfEven = IsoTime.toNs ⟨1, 20, 0, 0, 0, 0⟩ := by
  decide

/-- `since` = negated `until` with the mirrored mode; `subtract(d) = add(−d)`. -/
theorem C05_subtract (dt : IsoDateTime) (du : Dur) (ov : Overflow) :
    plainDateTimeSubtract dt du ov = plainDateTimeAdd dt du.negated ov := rfl

/-! Witnesses (kernel-decided): a day carry of 2^32 days and a step below the lower limit are RangeErrors (not a
    wrapped value, not an assertion failure); a month-end addition whose time carries into the next day. -/
example : plainDateTimeAdd ⟨⟨2020, 1, 1⟩, ⟨0, 0, 0, 0, 0, 0⟩⟩ ⟨0, 0, 0, 0, 103079215104, 0, 0, 0, 0, 0⟩ .constrain
    = .err .range := by decide
example : plainDateTimeAdd ⟨⟨-271821, 4, 19⟩, ⟨0, 0, 0, 0, 0, 1⟩⟩ ⟨0, 0, 0, 0, 0, 0, 0, 0, 0, -1⟩ .constrain
    = .err .range := by decide
example : plainDateTimeAdd ⟨⟨2024, 1, 31⟩, ⟨23, 30, 0, 0, 0, 0⟩⟩ ⟨0, 1, 0, 0, 1, 0, 0, 0, 0, 0⟩ .constrain
    = .ok ⟨⟨2024, 3, 1⟩, ⟨0, 30, 0, 0, 0, 0⟩⟩ := by decide

end TemporalModel

#print axioms TemporalModel.C05_time_add_exact
#print axioms TemporalModel.C05_add_compose
#print axioms TemporalModel.C05_carry_no_wrap
#print axioms TemporalModel.C05_add_huge_time
#print axioms TemporalModel.C05_round_hour
#print axioms TemporalModel.C05_round_shift
#print axioms TemporalModel.C05_round_halfEven_counterexample
#print axioms TemporalModel.C05_subtract
