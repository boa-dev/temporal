/-
  Props/C18.lean — property C18: year-months and month-days are canonical and count whole months.
-/
import TemporalModel.Lemmas.MergeLemmas
namespace TemporalModel
open Greg

@[ensures] theorem yearMonthFromPartial_day (p : PartialDate) (ov : Overflow) :
    (yearMonthFromPartial p ov).Ensures (·.day = 1) := by
  simp only [yearMonthFromPartial, ensures]
  intro y m d h
  cases resolvedFieldsIso_yearMonth_day _ h
  simp only [yearMonthNew, Option.getD_some, ensures]
  exact fun _ hr _ => IsoDate.regulate_day_one hr

/-- **Canonical hidden day**: a year-month built from a field record — whatever day the record carries —
    has reference day 1. -/
theorem C18_canonical_from_fields (p : PartialDate) (ov : Overflow) (r : IsoDate)
    (h : yearMonthFromPartial p ov = .ok r) : r.day = 1 :=
  yearMonthFromPartial_day p ov r h

/-- from a date, from `with`, and from year-month arithmetic: all go through the field route. -/
theorem C18_canonical_routes (d r : IsoDate) (p : PartialDate) (ov : Option Overflow) (du : Dur) (o : Overflow) :
    (dateToYearMonth d = .ok r → r.day = 1) ∧
    (∀ recv, yearMonthWith recv p ov = .ok r → r.day = 1) ∧
    (∀ recv, yearMonthAdd recv du o = .ok r → r.day = 1) := by
  have h1 : (dateToYearMonth d).Ensures (·.day = 1) := by simp only [dateToYearMonth, ensures]
  have h2 recv : (yearMonthWith recv p ov).Ensures (·.day = 1) := by simp only [yearMonthWith, ensures]
  have h3 recv : (yearMonthAdd recv du o).Ensures (·.day = 1) := by simp only [yearMonthAdd, ensures]
  exact ⟨h1 r, (h2 · r), (h3 · r)⟩

/-- **Month-days carry reference year 1972** unless the low-level constructor names another year. -/
theorem C18_canonical_month_day (m d : Int) (ov : Overflow) (r : IsoDate)
    (h : monthDayNew m d ov none = .ok r) : r.year = 1972 :=
  IsoDate.newWithOverflow_year r h

/-- The first of a month, from the field record year-month arithmetic builds. -/
theorem dateFromPartial_first (y m : Int) (ov : Overflow) (hm : 1 ≤ m ∧ m ≤ 12) (hr : InRange ⟨y, m, 1⟩) :
    dateFromPartial ⟨some y, some m, some ⟨m.toNat, false⟩, some 1, false, none⟩ ov = .ok ⟨y, m, 1⟩ := by
  rw [dateFromPartial, resolvedFieldsIso_eq, resolveIsoMonth_num _ ov m (by nofun)]
  simp only [eraYearIso, resolveDay, (mergeMonthSpec_code_of_mem hm.1 hm.2 m ov).2, reduceCtorEq, decide_false,
    Bool.false_eq_true, if_false, Out.bind_ok, Out.pure_eq_ok,
    mergeDaySpec_of_mem (Int.le_refl 1) (dim_pos y m)]
  exact IsoDate.newWithOverflow_of_inRange ⟨y, m, 1⟩ ov hr

/-- A year-month from the fields of a date: the date's year and month, day 1. -/
theorem yearMonthFromPartial_of_date (a : IsoDate) (ov : Overflow) (hm : 1 ≤ a.month ∧ a.month ≤ 12) :
    yearMonthFromPartial ⟨some a.year, none, some ⟨a.month.toNat, false⟩, some a.day, false, none⟩ ov =
      yearMonthNew a.year a.month (some 1) ov := by
  rw [yearMonthFromPartial, resolvedFieldsIso_eq, resolveIsoMonth_num _ ov a.month (by nofun)]
  simp only [eraYearIso, resolveDay, (mergeMonthSpec_code_of_mem hm.1 hm.2 a.month ov).1, decide_true, if_true,
    Out.bind_ok, Out.pure_eq_ok,
    mergeDaySpec_of_mem (Int.le_refl 1) (dim_pos a.year a.month)]

/-- **C18 (year-month arithmetic counts from the first of the month).** For a duration of whole years and months,
`add` is plain-date addition from day 1 of the receiver's month - whatever hidden reference day the receiver carries -
followed by taking the year and month of the result (day 1 again): the hidden part never influences the result. -/
theorem C18_add_from_first_of_month (r : IsoDate) (du : Dur) (ov : Overflow) (bal : Dur)
    (hm : 1 ≤ r.month ∧ r.month ≤ 12) (hr : InRange ⟨r.year, r.month, 1⟩)
    (hb : timeFromNormalized du.timeNs .day = .ok bal)
    (h0 : du.weeks = 0 ∧ F64.ofInt (du.days + bal.days) = 0) :
    yearMonthAdd r du ov = (do
      let added ← plainDateAdd ⟨r.year, r.month, 1⟩ du ov
      yearMonthNew added.year added.month (some 1) ov) := by
  unfold yearMonthAdd
  simp only [hb, Out.bind_ok]
  rw [if_neg (fun h => h.elim (· h0.1) (· h0.2))]
  unfold partialOfYearMonth
  simp only [Out.pure_eq_ok, Out.bind_ok, dateFromPartial_first r.year r.month ov hm hr]
  cases hadd : plainDateAdd ⟨r.year, r.month, 1⟩ du ov with
  | err k => rfl
  | panic => rfl
  | ok added =>
    simp only [Out.bind_ok]
    have hma : 1 ≤ added.month ∧ added.month ≤ 12 := (plainDateAdd_inRange _ hadd).monthOk
    have hmc := monthToMonthCode_of_mem hma.1 (by omega)
    unfold PartialDate.withFallback
    simp only [hmc, Out.bind_ok, Out.pure_eq_ok, Option.isSome_none, Bool.false_eq_true, or_self, if_false,
      Option.getD_none, if_true]
    exact yearMonthFromPartial_of_date added ov hma

/-- Year-month arithmetic refuses weeks and days (also whole days carried by time units). -/
theorem C18_rejects_weeks_days (r : IsoDate) (du : Dur) (ov : Overflow) (bal : Dur)
    (hb : timeFromNormalized du.timeNs .day = .ok bal)
    (h : du.weeks ≠ 0 ∨ F64.ofInt (du.days + bal.days) ≠ 0) :
    yearMonthAdd r du ov = .err .range := by
  unfold yearMonthAdd
  simp only [hb, Out.bind_ok]
  rw [if_pos h]

/-- **Limits**: for a proper month the constructor accepts exactly −271821-04 … +275760-09. -/
theorem C18_limits (y m : Int) (hm : 1 ≤ m ∧ m ≤ 12) (ov : Overflow) :
    (yearMonthNew y m none ov).isOk =
      decide ((-271821 < y ∨ (y = -271821 ∧ 4 ≤ m)) ∧ (y < 275760 ∨ (y = 275760 ∧ m ≤ 9))) := by
  have hv : Valid y m 1 := ⟨hm.1, hm.2, Int.le_refl 1, dim_pos y m⟩
  have hl : yearMonthWithinLimits y m =
      decide ((-271821 < y ∨ (y = -271821 ∧ 4 ≤ m)) ∧ (y < 275760 ∨ (y = 275760 ∧ m ≤ 9))) := by
    unfold yearMonthWithinLimits
    split
    · exact (decide_eq_false (by omega)).symm
    split
    · exact (decide_eq_false (by omega)).symm
    split
    · exact (decide_eq_false (by omega)).symm
    · exact (decide_eq_true (by omega)).symm
  unfold yearMonthNew
  rw [Option.getD_none, IsoDate.regulate_of_valid ⟨y, m, 1⟩ ov hv, Out.bind_ok, hl]
  cases decide ((-271821 < y ∨ (y = -271821 ∧ 4 ≤ m)) ∧ (y < 275760 ∨ (y = 275760 ∧ m ≤ 9))) <;> rfl

/-- Month-days accept February 29 and constrain or reject impossible days. -/
theorem C18_month_day_feb29 :
    monthDayNew 2 29 .reject none = .ok ⟨1972, 2, 29⟩ ∧ monthDayNew 2 30 .reject none = .err .range ∧
    monthDayNew 2 31 .constrain none = .ok ⟨1972, 2, 29⟩ ∧ monthDayNew 4 31 .constrain none = .ok ⟨1972, 4, 30⟩ ∧
    monthDayNew 13 1 .reject none = .err .range ∧ monthDayNew 13 40 .constrain none = .ok ⟨1972, 12, 31⟩ := by
  decide

/-! The day of a field record is dropped, days are refused, whole months are counted. -/
example : yearMonthFromPartial ⟨some 2024, some 3, none, some 15, false, none⟩ .constrain = .ok ⟨2024, 3, 1⟩ := by decide
example : yearMonthAdd ⟨2024, 3, 1⟩ ⟨0, 0, 0, 5, 0, 0, 0, 0, 0, 0⟩ .constrain = .err .range := by decide
example : yearMonthAdd ⟨2024, 3, 1⟩ ⟨1, 11, 0, 0, 0, 0, 0, 0, 0, 0⟩ .constrain = .ok ⟨2026, 2, 1⟩ := by decide

end TemporalModel

#print axioms TemporalModel.C18_canonical_from_fields
#print axioms TemporalModel.C18_canonical_routes
#print axioms TemporalModel.C18_canonical_month_day
#print axioms TemporalModel.C18_rejects_weeks_days
#print axioms TemporalModel.C18_limits
#print axioms TemporalModel.C18_month_day_feb29
#print axioms TemporalModel.C18_add_from_first_of_month
