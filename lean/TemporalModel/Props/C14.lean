/-
  Props/C14.lean — property C14: ZonedDateTime arithmetic is wall-clock for dates and exact for times.
-/
import TemporalModel.Props.C13
import TemporalModel.Props.C07
import TemporalModel.Lemmas.RelZonedLemmas
import TemporalModel.Lemmas.ZonedDiffLemmas
namespace TemporalModel
open ZoneSpec

/-- **C14 (add, time units).** A duration without date units is added on the exact timeline: the result is the
instant plus the duration's exact nanoseconds (or a RangeError outside the range), in every zone. -/
theorem C14_add_time_exact (tz : TZ) (ns : Int) (du : Dur) (ov : Overflow)
    (h : (dateDur du.years du.months du.weeks du.days).sign = 0) :
    zdtAdd tz ns du ov =
      (if -8640000000000000000000 ≤ ns + du.timeNs ∧ ns + du.timeNs ≤ 8640000000000000000000
       then .ok (ns + du.timeNs) else .err .range) := by
  unfold zdtAdd addToInstant
  rw [if_pos h]
  exact TZ.epochNs_eq _

/-- **C14 (add, date units).** With date units the duration's date part is added to the wall-clock date (constrain /
reject as asked), the wall-clock time is kept, the result is re-resolved in the zone with the compatible rule, and
only then the time part is added on the exact timeline. -/
theorem C14_add_wall_then_exact (tz : TZ) (ns : Int) (du : Dur) (ov : Overflow)
    (h : (dateDur du.years du.months du.weeks du.days).sign ≠ 0) :
    zdtAdd tz ns du ov = (do
      let wall ← tz.isoDateTimeFor ns
      let added ← plainDateAdd wall.date (dateDur du.years du.months du.weeks du.days) ov
      if !(isoDtWithinValidLimits added wall.time) then Out.err .range else do
      let resolved ← tz.epochNsFor ⟨added, wall.time⟩ .compatible
      TZ.epochNs (resolved + du.timeNs)) := by
  unfold zdtAdd addToInstant
  rw [if_neg h]

/-- **C14 (until/since, time largest unit).** With a largest unit of hours, minutes or seconds and no rounding the
result is the exact elapsed time between the two instants — the zone plays no part. -/
theorem C14_until_exact_elapsed (a b : Int) (L : TUnit) (k : Nat) (mode : RMode)
    (ha : a.natAbs ≤ 8640000000000000000000) (hb : b.natAbs ≤ 8640000000000000000000)
    (hL : L = .hour ∨ L = .minute ∨ L = .second) (hk : balanceDepth L = some k) :
    ∃ r, zdtDiffTime false a b ⟨L, .nanosecond, 1, mode⟩ = .ok r ∧ r.totalNs = b - a ∧ r.ValidSpec ∧ r.days = 0 := by
  have hab : ((b - a).natAbs : Int) ≤ Dur.MAX_TIME_DURATION := by unfold Dur.MAX_TIME_DURATION; omega
  obtain ⟨t, _, hv, htime, ht, hdur⟩ := durFromNormalized_time Dur.zero (b - a) L hL hab (by decide)
  have hround : RoundI128.round (b - a) ((1 : Nat) * (1 : Int)) mode = b - a := RoundI128.round_one _ mode
  have hd0 : t.days = 0 := by rw [← ht]
  refine ⟨t, ?_, ?_, hv, hd0⟩
  · unfold zdtDiffTime nsDifference normRound
    simp only [normChecked_of_le hab, Out.bind_ok, TUnit.asNanoseconds, hround, ne_eq, not_true_eq_false, false_and,
      if_false, Out.pure_eq_ok, hdur, Bool.false_eq_true]
    show (Dur.new ⟨0, 0, 0, 0, t.hours, t.minutes, t.seconds, t.milliseconds, t.microseconds, t.nanoseconds⟩ >>= _) = _
    rw [ht, Dur.new_of_valid ((Dur.isValid_iff t).mpr hv)]; rfl
  · show t.days * 86400000000000 + t.timeNs = b - a
    omega

/-- **C14 (start of day).** When some instant reads local midnight, the start of day is the first such instant
(the list of instants is ascending, C13_possible_sorted). -/
theorem C14_start_of_day_first (z : Zone) (date : IsoDate) (x : Int) (rest : List Int)
    (hr : TZ.validDayRange date = .ok ())
    (hp : z.possible (toUncheckedEpochNanoseconds date IsoTime.midnight) = x :: rest)
    (hv : ∀ t ∈ x :: rest, isValidEpochNanos t = true) :
    (TZ.named z).startOfDay date = .ok x ∧ (∀ t ∈ x :: rest, x ≤ t) ∧
    wall z x = toUncheckedEpochNanoseconds date IsoTime.midnight := by
  have hs := C13_possible_sorted z (toUncheckedEpochNanoseconds date IsoTime.midnight)
  rw [hp] at hs
  refine ⟨?_, ?_, (C13_possible_iff z _ x).mp (by rw [hp]; exact List.mem_cons_self ..)⟩
  · rw [TZ.startOfDay_named hr (by rw [hp]; exact hv), hp]; rfl
  · intro t ht
    cases ht with
    | head => exact Int.le_refl _
    | tail _ h => exact (List.pairwise_cons.mp hs).1 t h

/-- **C14 (start of day over a skipped midnight, any gap size).** In a zone with one forward transition at second `T`
whose gap contains local midnight, the start of day is the transition instant itself — the first instant of that local
day (or of the next existing one when the whole day is skipped). -/
theorem C14_start_of_day_gap (ob oa T : Int) (date : IsoDate) (hlt : ob < oa) (hob : -86400 < ob) (hoa : oa < 86400)
    (hr : TZ.validDayRange date = .ok ())
    (h1 : (T + ob) * 1000000000 ≤ toUncheckedEpochNanoseconds date IsoTime.midnight)
    (h2 : toUncheckedEpochNanoseconds date IsoTime.midnight < (T + oa) * 1000000000)
    (hT : isValidEpochNanos (T * 1000000000) = true) :
    (TZ.named ⟨ob, [(T, oa)]⟩).startOfDay date = .ok (T * 1000000000) ∧
    ZoneSpec.startOfDay ⟨ob, [(T, oa)]⟩ (toUncheckedEpochNanoseconds date IsoTime.midnight) = some (T * 1000000000) := by
  have hg := Zone.possible_single_gap hlt h1 h2
  constructor
  · rw [TZ.startOfDay_named hr (by rw [hg]; intro t ht; cases ht), hg, Zone.lookup_single,
      if_pos (by unfold NS_PER_DAY; omega)]
    exact TZ.epochNs_of_valid hT
  · -- the only transition jumps over midnight: just before it the wall clock reads with `ob`, at it with `oa`
    have hw1 : wall ⟨ob, [(T, oa)]⟩ (T * 1000000000 - 1) = T * 1000000000 - 1 + ob * 1000000000 := by
      rw [wall, Zone.offsetAt_single, if_neg (by omega)]
    have hw2 : wall ⟨ob, [(T, oa)]⟩ (T * 1000000000) = T * 1000000000 + oa * 1000000000 := by
      rw [wall, Zone.offsetAt_single, if_pos (by omega)]
    unfold ZoneSpec.startOfDay
    simp only [hg, List.filterMap_cons, List.filterMap_nil, hw1, hw2, List.nil_append]
    rw [if_pos (by omega)]
    rfl

/-- **C14 (hours in day).** The reported number is the whole hours of the real elapsed time between the start of
the local day and the start of the next one. -/
theorem C14_hours_in_day (tz : TZ) (ns : Int) (wallDt : IsoDateTime) (t0 t1 : Int)
    (hw : tz.isoDateTimeFor ns = .ok wallDt)
    (h0 : tz.startOfDay wallDt.date = .ok t0)
    (h1 : tz.startOfDay (IsoDate.balance wallDt.date.year wallDt.date.month (wallDt.date.day + 1)) = .ok t1)
    (hd : ((t1 - t0).natAbs : Int) ≤ Dur.MAX_TIME_DURATION) :
    zdtHoursInDay tz ns = .ok (Int.tdiv (t1 - t0) 3600000000000 % 256) := by
  unfold zdtHoursInDay nsDifference
  simp only [hw, h0, h1, Out.bind_ok, normChecked_of_le hd]
  rfl

/-- **C14 (rounding a time unit relative to a zoned date-time — NudgeToZonedTime).** Let `s` be the receiver moved by
the duration's date part and `e` one more day in the duration's direction, both resolved in the zone (so `e - s` is
the real length of that local day: 23, 24, 25 h or whatever the rules make it). Whenever the step succeeds:
 * the time part of the result is a multiple of the rounding step;
 * the days grow by one (in the duration's direction) exactly when the rounded time reaches the end of that local
   day, and then the time part is the rounded *excess over the day's real length*, otherwise it is the rounded time;
 * the instant reported for the result is the bracket end it is measured from plus the time part — what `add` maps the
   receiver to;
 * that instant is less than two rounding steps from the exact destination `s + norm`, and less than one step when the
   day was not overrun or its length is a whole number of steps. -/
theorem C14_zoned_time_rounding (tz : TZ) (sign : Int) (dt : IsoDateTime) (date : Dur) (norm : Int) (o : Resolved)
    (len : Nat) (s e : Int) (r : NudgeRecord)
    (hlen : o.smallest.asNanoseconds = some len) (hl : 0 < len) (hinc : 0 < o.increment)
    (hb : zonedDayBracket tz sign dt date = .ok (s, e))
    (h : nudgeToZonedTime tz sign dt date norm o = .ok r) :
    let q := (len : Int) * o.increment
    let rounded := roundSpec norm q o.mode
    r.norm % q = 0 ∧
    (r.expanded = true ↔ intSign (rounded - (e - s)) ≠ -sign) ∧
    (r.expanded = true → r.norm = roundSpec (rounded - (e - s)) q o.mode ∧
        r.date = dateDur date.years date.months date.weeks (date.days + sign) ∧ r.nudgeEpochNs = e + r.norm) ∧
    (r.expanded = false → r.norm = rounded ∧
        r.date = dateDur date.years date.months date.weeks date.days ∧ r.nudgeEpochNs = s + r.norm) ∧
    (-(2 * q) < r.nudgeEpochNs - (s + norm) ∧ r.nudgeEpochNs - (s + norm) < 2 * q) ∧
    ((r.expanded = false ∨ (e - s) % q = 0) →
        -q < r.nudgeEpochNs - (s + norm) ∧ r.nudgeEpochNs - (s + norm) < q) := by
  have hq : 0 < (len : Int) * o.increment := Int.mul_pos (by omega) hinc
  have hr := nudgeToZonedTime_eq_ok hlen hb h
  -- the statement speaks of `roundSpec`, the code of `RoundI128.round`
  simp only [← RoundI128.round_eq_spec _ _ _ hq]
  -- both roundings land on a multiple of the step less than a step away
  have hw1 := C07_within_increment norm _ o.mode hq
  have hm1 := Int.emod_eq_zero_of_dvd (RoundI128.round_dvd norm _ o.mode hq)
  generalize RoundI128.round norm _ o.mode = rd at *
  have hw2 := C07_within_increment (rd - (e - s)) _ o.mode hq
  have hm2 := Int.emod_eq_zero_of_dvd (RoundI128.round_dvd (rd - (e - s)) _ o.mode hq)
  subst hr
  split <;> rename_i hc <;> dsimp only
  · refine ⟨hm2, ⟨fun _ => hc, fun _ => rfl⟩, fun _ => ⟨rfl, rfl, Int.add_comm ..⟩, nofun, by omega, ?_⟩
    rintro (hh | hh)
    · cases hh
    · -- the day's length is a whole number of steps: the excess is already a multiple, rounding leaves it alone
      obtain ⟨k, hk⟩ := Int.dvd_of_emod_eq_zero
        (show (rd - (e - s)) % ((len : Int) * o.increment) = 0 by rw [Int.sub_emod, hm1, hh]; rfl)
      rw [hk, RoundI128.round_mul k _ o.mode hq]; omega
  · refine ⟨hm1, ⟨nofun, fun hh => absurd hh hc⟩, nofun, fun _ => ⟨rfl, rfl, Int.add_comm ..⟩, ?_, fun _ => ?_⟩
    -- rounded once: either distance is that of `hw1`
    · omega
    · omega

/-- Non-vacuity: in a zone at UTC, 23 h 59 min after midnight rounded to hours overruns the day — one day, no time. -/
example : (nudgeToZonedTime (.offset 0) 1 ⟨⟨1970, 1, 1⟩, IsoTime.midnight⟩ Dur.zero 86340000000000
    ⟨.day, .hour, 1, .halfExpand⟩).map (fun r => (r.date, r.norm, r.nudgeEpochNs, r.expanded)) =
    .ok (dateDur 0 0 0 1, 0, 86400000000000, true) := by decide +kernel
/-- … and on a 23-hour day (one hour skipped at 02:00 local) 22 h 40 min rounds to the whole day. -/
example : (nudgeToZonedTime (.named ⟨0, [(7200, 3600)]⟩) 1 ⟨⟨1970, 1, 1⟩, IsoTime.midnight⟩ Dur.zero 81600000000000
    ⟨.day, .hour, 1, .halfExpand⟩).map (fun r => (r.date, r.norm, r.nudgeEpochNs, r.expanded)) =
    .ok (dateDur 0 0 0 1, 0, 82800000000000, true) := by decide +kernel

/-- **C14 (until/since with a date largest unit and a time smallest unit, end to end).** Take the unrounded difference
`DifferenceZonedDateTime` returns for two different instants - a date part and a time part - and round its time part
with `NudgeToZonedTime`. Then the local-day bracket starts at the instant the date part leads to (`add` of the date
part alone from the receiver), the time part reaches the other instant exactly from there, and the instant the
ROUNDED duration leads to is less than two rounding steps from the other instant - less than one when the day was not
overrun or its real length is a whole number of steps. -/
theorem C14_until_rounded_reaches_other (tz : TZ) (ns1 ns2 : Int) (L : TUnit) (date : Dur) (td : Int)
    (dt : IsoDateTime) (sign : Int) (o : Resolved) (len : Nat) (r : NudgeRecord) (hne : ns1 ≠ ns2)
    (hd : zdtDiffZoned tz ns1 ns2 L = .ok (date, td)) (hdt : tz.isoDateTimeFor ns1 = .ok dt)
    (hlen : o.smallest.asNanoseconds = some len) (hl : 0 < len) (hinc : 0 < o.increment)
    (h : nudgeToZonedTime tz sign dt date td o = .ok r) :
    ∃ s e, zonedDayBracket tz sign dt date = .ok (s, e) ∧ s + td = ns2 ∧
      (-(2 * ((len : Int) * o.increment)) < r.nudgeEpochNs - ns2 ∧
        r.nudgeEpochNs - ns2 < 2 * ((len : Int) * o.increment)) ∧
      ((r.expanded = false ∨ (e - s) % ((len : Int) * o.increment) = 0) →
        -((len : Int) * o.increment) < r.nudgeEpochNs - ns2 ∧ r.nudgeEpochNs - ns2 < (len : Int) * o.increment) := by
  obtain ⟨mid, ins, hadd, hins, hsum, _, _, _, _⟩ := zdtDiffZoned_eq_ok tz ns1 ns2 L date td dt hne hd hdt
  obtain ⟨⟨s, e⟩, hb, _⟩ := (Out.bind_eq_ok (x := zonedDayBracket tz sign dt date)).mp h
  -- the bracket starts at the instant the date part leads to
  obtain ⟨mid', hadd', hs, _⟩ := zonedDayBracket_eq_ok hb
  obtain rfl : mid' = mid := Out.ok.inj (hadd'.symm.trans hadd)
  obtain rfl : s = ins := Out.ok.inj (hs.symm.trans hins)
  obtain ⟨_, _, _, _, h2, h1⟩ := C14_zoned_time_rounding tz sign dt date td o len s e r hlen hl hinc hb h
  subst hsum
  exact ⟨s, e, hb, rfl, h2, h1⟩

/-- **C14 (the inverse law, proved).** For two different instants and any largest unit, when `until` without rounding
succeeds with the duration `du`, `add(du)` maps the receiver exactly onto the other instant - provided the date part
is not zero, or the receiver is the instant its own wall-clock reading resolves to under `compatible` (it is not the
later copy of a repeated reading: for that case the specified algorithm measures the time part from the earlier copy,
the recorded finding), and the intermediate date-time is inside the date-time limits (it always is except for the
excluded first midnight). -/
theorem C14_add_until_inverse (tz : TZ) (ns1 ns2 : Int) (L : TUnit) (date : Dur) (td : Int) (dt : IsoDateTime)
    (du : Dur) (hne : ns1 ≠ ns2) (h2 : isValidEpochNanos ns2 = true)
    (hd : zdtDiffZoned tz ns1 ns2 L = .ok (date, td)) (hdt : tz.isoDateTimeFor ns1 = .ok dt)
    (hdu : durFromNormalized date td .hour = .ok du)
    (hc : date.sign ≠ 0 ∨ tz.epochNsFor dt .compatible = .ok ns1)
    (hlim : ∀ mid, plainDateAdd dt.date (dateDur date.years date.months date.weeks date.days) .constrain = .ok mid →
      isoDtWithinValidLimits mid dt.time = true) :
    zdtAdd tz ns1 du .constrain = .ok ns2 := by
  obtain ⟨mid, ins, hadd, hins, hsum, hdate, hdays, htb, hrdt⟩ := zdtDiffZoned_eq_ok tz ns1 ns2 L date td dt hne hd hdt
  -- the balanced duration: the date part as it is, the time part in hours and below, no days added
  obtain ⟨t, _, _, htime, _, hnew⟩ := durFromNormalized_time date td .hour (.inl rfl) htb (by omega)
  rw [hnew] at hdu
  obtain ⟨_, rfl⟩ := Dur.new_eq_ok.mp hdu
  have hduT : (⟨date.years, date.months, date.weeks, date.days, t.hours, t.minutes, t.seconds, t.milliseconds,
      t.microseconds, t.nanoseconds⟩ : Dur).timeNs = td := htime
  have hsgn : (dateDur date.years date.months date.weeks date.days).sign = date.sign := by rw [← hdate]
  -- from any instant `x` with `x + td = ns2`, the exact addition of the time part arrives at `ns2`
  have hfin : ∀ x, x + td = ns2 → addToInstant x _ = .ok ns2 := fun x hx => by
    unfold addToInstant; rw [hduT, hx]; exact TZ.epochNs_of_valid h2
  unfold zdtAdd
  simp only
  by_cases hz : date.sign = 0
  · -- no date part: exact addition from the receiver, which is the start of the bracket
    rw [hsgn, if_pos hz]
    have hcomp := hc.resolve_left (fun hn => hn hz)
    cases plainDateAdd_of_sign_zero hrdt hz hadd
    rw [hcomp] at hins
    cases hins
    exact hfin _ hsum
  · rw [hsgn, if_neg hz, hdt]
    simp only [Out.bind_ok]
    rw [hadd]
    simp only [Out.bind_ok, hlim mid hadd, Bool.not_true, Bool.false_eq_true, if_false, hins]
    exact hfin _ hsum

/-- Non-vacuity of the hypotheses: with one hour skipped at 02:00 local on 1970-01-02, from midnight of 1970-01-01 to
03:00 local on 1970-01-02 are one day and two elapsed hours (not three): `until` reports P1DT2H and `add` maps the
receiver back onto the other instant. -/
example : zdtDiffZoned (.named ⟨0, [(93600, 3600)]⟩) 0 93600000000000 .day = .ok (dateDur 0 0 0 1, 7200000000000) ∧
    zdtAdd (.named ⟨0, [(93600, 3600)]⟩) 0 ⟨0, 0, 0, 1, 2, 0, 0, 0, 0, 0⟩ .constrain = .ok 93600000000000 := by
  decide +kernel

/-- **C14 (rounding a calendar unit or a day relative to a zoned date-time — NudgeToCalendarUnit with a zone).** The
two ends of the bracket are the receiver moved by the truncated and by the next duration on the wall clock, each
resolved in the zone with the compatible rule (so a day is as long as the zone makes it); the bracket is not empty;
the rounded position is the exact rational one of C08 (`nudgeRounded`, theorem C08_calendar_nudge_exact) computed on
those instants; and the result is one of the two ends. -/
theorem C14_zoned_calendar_nudge (tz : TZ) (sign destNs : Int) (dt : IsoDateTime) (date : Dur) (o : Resolved)
    (r : NudgeRecord) (h : nudgeCalendarUnitZ (some tz) sign destNs dt date o = .ok r) :
    ∃ r1 r2 startD endD st en s e,
      nudgeBracket sign dt date o = .ok (r1, r2, startD, endD) ∧
      addDateToDt dt startD = .ok st ∧ addDateToDt dt endD = .ok en ∧
      tz.epochNsFor st .compatible = .ok s ∧ tz.epochNsFor en .compatible = .ok e ∧ e ≠ s ∧
      let rounded := nudgeRounded r1 (o.increment * signMul sign) ((destNs - s) * intSign (e - s)) (e - s).natAbs
        o.increment o.mode
      (rounded = r2 → r.date = endD ∧ r.nudgeEpochNs = e ∧ r.expanded = true) ∧
      (rounded ≠ r2 → r.date = startD ∧ r.nudgeEpochNs = s ∧ r.expanded = false) ∧ r.norm = 0 := by
  unfold nudgeCalendarUnitZ at h
  obtain ⟨⟨r1, r2, startD, endD⟩, hb, h⟩ := Out.bind_eq_ok.mp h
  simp only [Out.bind_eq_ok, Dur.new_eq_ok, toNsIn, Out.err_ite_eq_ok] at h
  obtain ⟨_, ⟨_, rfl⟩, _, ⟨_, rfl⟩, st, h3, en, h4, s, h5, e, h6, hes, h⟩ := h
  refine ⟨r1, r2, startD, endD, st, en, s, e, hb, h3, h4, h5, h6, hes, ?_⟩
  split at h <;> cases h
  · exact ⟨fun _ => ⟨rfl, rfl, rfl⟩, fun hn => absurd ‹_› hn, rfl⟩
  · exact ⟨fun hh => absurd hh ‹_›, fun _ => ⟨rfl, rfl, rfl⟩, rfl⟩

/-- **C14 (compare relative to a zoned date-time).** Two different durations, at least one with a date unit, are
ordered as the instants `add` maps the reference to (wall-clock for the date parts, exact for the time parts). -/
theorem C14_compare_zoned_orders_destinations (a b : Dur) (tz : TZ) (ns x y : Int) (hne : a ≠ b)
    (hd : a.defaultLargestUnit.isTimeUnit = false ∨ b.defaultLargestUnit.isTimeUnit = false)
    (hx : zdtAdd tz ns a .constrain = .ok x) (hy : zdtAdd tz ns b .constrain = .ok y) :
    Dur.compareRelZoned a b tz ns = .ok (if x < y then -1 else if x > y then 1 else 0) := by
  have hd' : (!a.defaultLargestUnit.isTimeUnit) = true ∨ (!b.defaultLargestUnit.isTimeUnit) = true :=
    hd.imp (congrArg not) (congrArg not)
  unfold Dur.compareRelZoned
  rw [if_neg hne]
  dsimp only
  rw [if_pos hd', hx, hy]
  rfl

/-- **C14 / C08 (one machinery).** Without a zone the zone-parametrised rounding and totalling steps are literally the
plain-date ones of C08: every C08 theorem applies to them, and a zone changes only how wall-clock readings become
instants (`toNsIn`). -/
theorem C14_relative_without_zone (date : Dur) (norm destNs : Int) (dt : IsoDateTime) (o : Resolved) (u : TUnit) :
    roundRelativeDurationZ none date norm destNs dt o = roundRelativeDuration date norm destNs dt o ∧
    totalRelativeDurationZ none date norm destNs dt u = totalRelativeDuration date norm destNs dt u :=
  ⟨roundRelativeDurationZ_none date norm destNs dt o, totalRelativeDurationZ_none date norm destNs dt u⟩

/-- **C14 (differences across time zones)**: when the other value lives in another time zone, `until` / `since` with a
    date largest unit are a RangeError - whatever the two instants, equal ones included - and with a time largest unit
    they are the exact difference of the instants, the zones playing no part; in one zone the zoned difference. Option
    errors come first in every case. -/
theorem C14_until_across_zones (since : Bool) (tz : TZ) (ns1 ns2 : Int) (raw : RawOptions) (o : Resolved)
    (ho : fromDiffSettings raw since .dateTime .hour .nanosecond = .ok o) :
    (o.largest.isTimeUnit = false → zdtDiffFullZ since tz false ns1 ns2 raw = .err .range) ∧
    (o.largest.isTimeUnit = true → zdtDiffFullZ since tz false ns1 ns2 raw = zdtDiffTime since ns1 ns2 o) ∧
    zdtDiffFullZ since tz true ns1 ns2 raw = zdtDiffFull since tz ns1 ns2 raw := by
  -- once the options are read, the largest unit decides first and the zones second
  have hz : ∀ same, zdtDiffFullZ since tz same ns1 ns2 raw =
      if o.largest.isTimeUnit then zdtDiffTime since ns1 ns2 o
      else if !same then .err .range else zdtDiffFull since tz ns1 ns2 raw := by
    intro same; unfold zdtDiffFullZ; rw [ho]; rfl
  refine ⟨fun h => by rw [hz, h]; rfl, fun h => by rw [hz, if_pos h], ?_⟩
  rw [hz]
  split
  · unfold zdtDiffFull; rw [ho, Out.bind_ok, if_pos ‹_›]
  · rfl

theorem C14_until_across_zones_option_errors (since : Bool) (tz : TZ) (same : Bool) (ns1 ns2 : Int) (raw : RawOptions)
    (k : ErrKind) (ho : fromDiffSettings raw since .dateTime .hour .nanosecond = .err k) :
    zdtDiffFullZ since tz same ns1 ns2 raw = .err k := by
  unfold zdtDiffFullZ; rw [ho]; rfl

end TemporalModel

#print axioms TemporalModel.C14_add_time_exact
#print axioms TemporalModel.C14_add_wall_then_exact
#print axioms TemporalModel.C14_until_exact_elapsed
#print axioms TemporalModel.C14_start_of_day_first
#print axioms TemporalModel.C14_start_of_day_gap
#print axioms TemporalModel.C14_hours_in_day
#print axioms TemporalModel.C14_zoned_time_rounding
#print axioms TemporalModel.C14_relative_without_zone
#print axioms TemporalModel.C14_compare_zoned_orders_destinations
#print axioms TemporalModel.C14_until_rounded_reaches_other
#print axioms TemporalModel.C14_add_until_inverse
#print axioms TemporalModel.C14_zoned_calendar_nudge
#print axioms TemporalModel.C14_until_across_zones
#print axioms TemporalModel.C14_until_across_zones_option_errors
