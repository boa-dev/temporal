/-
  Props/C03.lean — property C03: no public operation panics or reports an internal assertion failure.

  `Out.Safe o` says the outcome `o` is a value or a Type/Range/Syntax/generic error.  Every modelled public operation
  is proved `Safe` for **all** arguments (receivers need only carry a month in 1..12, which every constructed value
  does).  The model marks every panic site of the code (`unreachable!`, `assert!`, `temporal_assert!`, unchecked
  `unwrap`, unbounded `loop`) with an explicit `.panic` / `.err .assert`; the theorems show none of them is reachable.
  The correspondence check then ties the code to the model (a panicking implementation differs from a model that
  provably never panics), and a surface sweep covers the functions that are not modelled.
-/
import TemporalModel.Lemmas.SafeLemmas
namespace TemporalModel

/-- `Safe` is exactly "not a panic and not an assertion error". -/
theorem C03_safe_meaning {α} (o : Out α) : o.Safe ↔ o ≠ .panic ∧ o ≠ .err .assert := by
  cases o with
  | ok a => exact ⟨fun _ => ⟨nofun, nofun⟩, fun _ => trivial⟩
  | err k => exact ⟨fun h => ⟨nofun, fun e => h (Out.err.inj e)⟩, fun h e => h.2 (congrArg _ e)⟩
  | panic => exact ⟨False.elim, fun h => h.1 rfl⟩

/-- **Termination.** The two unbounded search loops of `diff_iso_date` finish within 3 and 13 iterations for every
pair of dates (the model's fuel 8 / 16 is never exhausted). -/
theorem C03_diff_loops_terminate (a b : IsoDate) (ha : MonthOk a) (hb : MonthOk b) (hne : a.cmp b ≠ 0) :
    ∃ years months,
      yearLoop a b (-(a.cmp b)) 8 0
        (if b.year - a.year ≠ 0 then b.year - a.year - -(a.cmp b) else b.year - a.year) = some years ∧
      monthLoop a b (-(a.cmp b)) 16 0 (-(a.cmp b))
        (balanceIsoYearMonth (a.year + years) (a.month + -(a.cmp b))) = some months :=
  IsoDate.diffIsoDate_loops_terminate a b ha hb hne

/-- The two `unreachable!`/`assert!` sites of utils.rs cannot be reached. -/
theorem C03_utils_sites (y m : Int) (hm : 1 ≤ m ∧ m ≤ 12) :
    (mathematicalDaysInYear y).Safe ∧ (isoDaysInMonth y m).Safe :=
  ⟨mathematicalDaysInYear_safe y, isoDaysInMonth_safe y m hm.1 hm.2⟩

/-- **Constructors and option resolvers** — any integers, any options. -/
theorem C03_constructors (y m d h mi s ms us ns : Int) (ov : Overflow) (rd ry : Option Int) (du : Dur) :
    (plainDateTryNew y m d).Safe ∧ (IsoDate.newWithOverflow y m d ov).Safe ∧ (plainTimeTryNew h mi s ms us ns).Safe ∧
    (plainDateTimeTryNew y m d h mi s ms us ns).Safe ∧ (instantTryNew ns).Safe ∧ (instantFromEpochMs ms).Safe ∧
    (Dur.new du).Safe ∧ (yearMonthNew y m rd ov).Safe ∧ (monthDayNew m d ov ry).Safe ∧
    (IsoDateTime.fromEpochNanos ns us).Safe :=
  ⟨plainDateTryNew_safe .., IsoDate.newWithOverflow_safe .., plainTimeTryNew_safe .., plainDateTimeTryNew_safe ..,
   instantTryNew_safe _, instantFromEpochMs_safe _, Dur.new_safe _, yearMonthNew_safe .., monthDayNew_safe ..,
   IsoDateTime.fromEpochNanos_safe ..⟩

theorem C03_option_resolvers (raw : RawOptions) (since : Bool) (g : UnitGroup) (fl fs e : TUnit) (p : Precision) :
    (fromDiffSettings raw since g fl fs).Safe ∧ (fromDurationOptions raw e).Safe ∧ (fromDatetimeOptions raw).Safe ∧
    (fromInstantOptions raw).Safe ∧ (toStringResolve p raw.smallest raw.mode).Safe :=
  ⟨fromDiffSettings_safe .., fromDurationOptions_safe .., fromDatetimeOptions_safe _, fromInstantOptions_safe _,
   toStringResolve_safe ..⟩

/-- **PlainTime and Instant** — add / subtract / round / until / since. -/
theorem C03_time_instant (t t2 : IsoTime) (i j : Int) (du : Dur) (raw : RawOptions) (since : Bool) (u : TUnit) (inc : Int)
    (mode : Option RMode) :
    (plainTimeAdd t du).Safe ∧ (plainTimeSubtract t du).Safe ∧ (plainTimeRound t u inc mode).Safe ∧
    (plainTimeDiff since t t2 raw).Safe ∧ (instantAdd i du).Safe ∧ (instantSubtract i du).Safe ∧
    (instantRound i raw).Safe ∧ (instantDiff since i j raw).Safe :=
  ⟨plainTimeAdd_safe .., plainTimeSubtract_safe .., plainTimeRound_safe .., plainTimeDiff_safe .., instantAdd_safe ..,
   instantSubtract_safe .., instantRound_safe .., instantDiff_safe ..⟩

/-- **Duration without relativeTo** — add / subtract / compare / round / total. -/
theorem C03_duration (a b : Dur) (raw : RawOptions) (u : TUnit) :
    (a.add b).Safe ∧ (a.subtract b).Safe ∧ (a.compareNoRel b).Safe ∧ (a.roundNoRel raw).Safe ∧ (a.totalNoRel u).Safe :=
  ⟨Dur.add_safe .., Dur.subtract_safe .., Dur.compareNoRel_safe .., Dur.roundNoRel_safe .., Dur.totalNoRel_safe ..⟩

/-- **PlainDate** — add / subtract / until / since (with any rounding options) / with / from_partial / conversions. -/
theorem C03_plain_date (a b : IsoDate) (du : Dur) (ov : Overflow) (oov : Option Overflow) (raw : RawOptions) (since : Bool)
    (p : PartialDate) (k : Int) (ha : MonthOk a) (hb : MonthOk b) :
    (plainDateAdd a du ov).Safe ∧ (plainDateSubtract a du ov).Safe ∧ (plainDateAddDays a k).Safe ∧
    (plainDateDiffFull since a b raw).Safe ∧ (plainDateWith a p oov).Safe ∧ (plainDateFromPartial p oov).Safe ∧
    (dateToYearMonth a).Safe ∧ (dateToMonthDay a).Safe :=
  ⟨plainDateAdd_safe .., plainDateSubtract_safe .., plainDateAddDays_safe .., plainDateDiffFull_safe _ _ _ _ ha hb,
   plainDateWith_safe .., plainDateFromPartial_safe .., dateToYearMonth_safe _, dateToMonthDay_safe _⟩

/-- **PlainDateTime** — add / subtract / round / until / since (with rounding) / with / from_partial. -/
theorem C03_plain_date_time (a b : IsoDateTime) (du : Dur) (ov : Overflow) (oov : Option Overflow) (raw : RawOptions)
    (since : Bool) (pd : PartialDate) (pt : PartialTime) (ha : MonthOk a.date) :
    (plainDateTimeAdd a du ov).Safe ∧ (plainDateTimeSubtract a du ov).Safe ∧ (plainDateTimeRound a raw).Safe ∧
    (plainDateTimeDiffFull since a b raw).Safe ∧ (plainDateTimeWith a pd pt oov).Safe ∧
    (plainDateTimeFromPartial pd pt oov).Safe :=
  ⟨plainDateTimeAdd_safe .., plainDateTimeSubtract_safe .., plainDateTimeRound_safe ..,
   plainDateTimeDiffFull_safe _ _ _ _ ha, plainDateTimeWith_safe .., plainDateTimeFromPartial_safe ..⟩

/-- **PlainTime partial records.** -/
theorem C03_plain_time_partial (t : IsoTime) (p : PartialTime) (oov : Option Overflow) :
    (plainTimeWith t p oov).Safe ∧ (plainTimeFromPartial p oov).Safe :=
  ⟨plainTimeWith_safe .., plainTimeFromPartial_safe ..⟩

/-- **PlainYearMonth / PlainMonthDay** — add / subtract / until / since / with / from_partial. -/
theorem C03_year_month (a b : IsoDate) (du : Dur) (ov : Overflow) (oov : Option Overflow) (raw : RawOptions) (since : Bool)
    (p : PartialDate) (ha : MonthOk a) (hb : MonthOk b) :
    (yearMonthAdd a du ov).Safe ∧ (yearMonthSubtract a du ov).Safe ∧ (yearMonthDiffFull since a b raw).Safe ∧
    (yearMonthWith a p oov).Safe ∧ (yearMonthFromPartial p ov).Safe :=
  ⟨yearMonthAdd_safe .., yearMonthSubtract_safe .., yearMonthDiffFull_safe _ _ _ _ ha hb, yearMonthWith_safe ..,
   yearMonthFromPartial_safe ..⟩

/-- **Duration relative to a plain date** — round / total / compare. -/
theorem C03_duration_relative (a b : Dur) (raw : RawOptions) (u : TUnit) (rel : IsoDate) (hr : MonthOk rel) :
    (a.roundRelPlainDate raw rel).Safe ∧ (a.totalRelPlainDate u rel).Safe ∧ (a.compareRelPlainDate b rel).Safe :=
  ⟨Dur.roundRelPlainDate_safe _ _ _ hr, Dur.totalRelPlainDate_safe _ _ _ hr, Dur.compareRelPlainDate_safe ..⟩

/-- Every value the constructors return carries a month in 1..12, so the receiver hypothesis above is met by every
value a caller can hold. -/
theorem C03_receivers_have_months (y m d : Int) (ov : Overflow) (c : IsoDate)
    (h : IsoDate.newWithOverflow y m d ov = .ok c) : MonthOk c :=
  (IsoDate.newWithOverflow_inRange c h).monthOk

/-! Non-vacuity: the extreme dates meet the receiver hypothesis, so the theorems above speak of them. -/
example : MonthOk ⟨-271821, 4, 19⟩ ∧ MonthOk ⟨275760, 9, 13⟩ := by unfold MonthOk; decide
example : plainDateDiffFull false ⟨-271821, 4, 19⟩ ⟨275760, 9, 13⟩ ⟨some .year, some .month, some 7, some .halfEven⟩ ≠ .panic := by
  intro h
  have := (C03_plain_date ⟨-271821, 4, 19⟩ ⟨275760, 9, 13⟩ Dur.zero .constrain none
    ⟨some .year, some .month, some 7, some .halfEven⟩ false
    ⟨none, none, none, none, false, none⟩ 0 (by unfold MonthOk; decide) (by unfold MonthOk; decide)).2.2.2.1
  rw [h] at this; exact this

end TemporalModel

#print axioms TemporalModel.C03_safe_meaning
#print axioms TemporalModel.C03_diff_loops_terminate
#print axioms TemporalModel.C03_utils_sites
#print axioms TemporalModel.C03_constructors
#print axioms TemporalModel.C03_option_resolvers
#print axioms TemporalModel.C03_time_instant
#print axioms TemporalModel.C03_duration
#print axioms TemporalModel.C03_plain_date
#print axioms TemporalModel.C03_plain_date_time
#print axioms TemporalModel.C03_plain_time_partial
#print axioms TemporalModel.C03_year_month
#print axioms TemporalModel.C03_duration_relative
#print axioms TemporalModel.C03_receivers_have_months
