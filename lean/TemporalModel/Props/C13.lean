/-
  Props/C13.lean — property C13: wall-clock ↔ instant conversion follows the zone's offsets and the options.

  Zones are arbitrary transition tables (`Zone`: initial offset + list of (instant, new offset)).
-/
import TemporalModel.Lemmas.ZoneLemmas
import TemporalModel.Lemmas.TimeLemmas
import TemporalModel.Lemmas.DateLemmas
namespace TemporalModel
open ZoneSpec

/-- **C13 (instants of a reading).** For every transition table, `possible` lists exactly the instants whose
wall-clock reading — the instant shifted by the offset in force at that instant — is the given reading. -/
theorem C13_possible_iff (z : Zone) (localNs t : Int) :
    t ∈ z.possible localNs ↔ wall z t = localNs :=
  (mem_candidates_iff z.offsets (fun t => z.offsetAt (t / 1000000000)) (· * 1000000000) localNs t).trans
    ⟨And.left, fun h => ⟨h, z.offsetAt_mem_offsets _⟩⟩

/-- The instants are listed in ascending order (so "earlier" is the first and "later" the last). -/
theorem C13_possible_sorted (z : Zone) (localNs : Int) :
    (z.possible localNs).Pairwise (· ≤ ·) :=
  pairwise_mergeSort_le _

/-- **C13 (fixed offsets).** A fixed-offset zone has the same offset at every instant. -/
theorem C13_fixed_offset (m ns : Int) : (TZ.offset m).offsetNanosFor ns = m * 60000000000 := rfl

/-- A named zone's offset at an instant is the table's offset at the second containing it. -/
theorem C13_named_offset (z : Zone) (ns : Int) :
    ns + (TZ.named z).offsetNanosFor ns = wall z ns := rfl

/-- Balancing a date-time keeps its reading, whatever the day number and the time fields. -/
theorem IsoDateTime.balance_reading {y m d h mi s ms us ns : Int} (hm1 : 1 ≤ m) (hm12 : m ≤ 12) :
    let dt := balance y m d h mi s ms us ns
    toUncheckedEpochNanoseconds dt.date dt.time =
      Greg.dayNumber y m d * 86400000000000 + (((((h * 60 + mi) * 60 + s) * 1000 + ms) * 1000 + us) * 1000 + ns) ∧
    dt.time.isValid = true ∧ Greg.Valid dt.date.year dt.date.month dt.date.day := by
  -- the time of day balances exactly, carrying `k` whole days into the date
  have hb := IsoTime.balance_exact h mi s ms us ns
  unfold balance
  generalize IsoTime.balance h mi s ms us ns = bt at hb
  obtain ⟨k, time⟩ := bt
  obtain ⟨y', m', d', hbd, hv', hdn'⟩ := isoDateBalance_spec y m (d + k) hm1 hm12
  dsimp only at hb ⊢
  unfold IsoDate.balance
  rw [hbd]
  refine ⟨?_, hb.2, hv'⟩
  unfold toUncheckedEpochNanoseconds IsoDate.toEpochDays
  dsimp only
  rw [toDays_eq_dayNumber y' m' d' hv'.1 hv'.2.1, hdn']
  have hsum := hb.1
  unfold IsoTime.toNs at hsum
  unfold IsoTime.toEpochMs MS_PER_DAY Greg.dayNumber
  omega

/-- No bound on the instant or the offset is needed: the Gregorian kernels are exact everywhere. -/
theorem IsoDateTime.fromEpochNanos_exact (ns off : Int) :
    ∃ dt, IsoDateTime.fromEpochNanos ns off = .ok dt ∧
      toUncheckedEpochNanoseconds dt.date dt.time = ns + off ∧
      dt.time.isValid = true ∧ Greg.Valid dt.date.year dt.date.month dt.date.day := by
  -- the four time fields cut from a millisecond count recombine to its time of day
  have hsplit : ∀ ms : Int, ms / 3600000 % 24 * 3600000 + ms / 60000 % 60 * 60000 + ms / 1000 % 60 * 1000 + ms % 1000 =
      ms % 86400000 := fun ms => by omega
  unfold IsoDateTime.fromEpochNanos
  dsimp only
  have hrem0 := Int.emod_nonneg ns (show (1000000:Int) ≠ 0 by decide)
  have hrem1 := Int.emod_lt_of_pos ns (show (0:Int) < 1000000 by decide)
  rw [if_neg (by omega)]
  generalize hms : (ns - ns % 1000000) / 1000000 = ms
  obtain ⟨y, m, d, hy, hv, hdn⟩ := fromDays_spec (ms / MS_PER_DAY)
  rw [hy]
  obtain ⟨hread, hvalid, hv'⟩ := IsoDateTime.balance_reading hv.1 hv.2.1
  refine ⟨_, rfl, ?_, hvalid, hv'⟩
  -- the day and the time of day recombine to `ms`, and `ms` with the remainder to `ns`
  rw [hread, hdn]
  have := hsplit ms
  unfold MS_PER_DAY
  omega

/-- **C13 (instant → wall clock).** For every instant of the representable range and every offset of at most two
days, the date-time the code computes is a real calendar day with a valid time of day, and read back as
nanoseconds it is exactly the instant plus the offset. -/
theorem C13_wall_exact (ns off : Int) (hns : (ns.natAbs : Int) ≤ 8640000000000000000000)
    (hoff : (off.natAbs : Int) ≤ 172800000000000) :
    ∃ dt, IsoDateTime.fromEpochNanos ns off = .ok dt ∧
      toUncheckedEpochNanoseconds dt.date dt.time = ns + off ∧
      dt.time.isValid = true ∧ Greg.Valid dt.date.year dt.date.month dt.date.day :=
  IsoDateTime.fromEpochNanos_exact ns off

/-- **C13 (unique and repeated readings).** One instant: it is returned whatever the option. Several instants:
the first (earliest) under compatible / earlier, the last (latest) under later, a RangeError under reject. -/
theorem C13_disambiguate_matches (tz : TZ) (iso : IsoDateTime) (x y : Int) (rest : List Int) (d : Disamb) :
    tz.disambiguate [x] iso d = .ok x ∧
    tz.disambiguate (x :: y :: rest) iso .compatible = .ok x ∧
    tz.disambiguate (x :: y :: rest) iso .earlier = .ok x ∧
    tz.disambiguate (x :: y :: rest) iso .later = .ok ((x :: y :: rest).getLast?.getD x) ∧
    tz.disambiguate (x :: y :: rest) iso .reject = .err .range ∧
    tz.disambiguate [] iso .reject = .err .range := by
  refine ⟨rfl, rfl, rfl, rfl, rfl, rfl⟩

/-- The specification function agrees: matches are resolved the same way. -/
theorem C13_spec_matches (z : Zone) (localNs x y : Int) (rest : List Int) (h : z.possible localNs = x :: y :: rest) :
    instant z localNs .compatible = some x ∧ instant z localNs .earlier = some x ∧
    instant z localNs .later = some ((y :: rest).getLast?.getD y) ∧ instant z localNs .reject = none := by
  unfold instant; rw [h]; exact ⟨rfl, rfl, rfl, rfl⟩

/-- **C13 (skipped readings, whatever the size of the gap).** In a zone with one transition at second `T` from
offset `ob` to a larger offset `oa` (both shorter than a day — the gap `oa − ob` can be anything from a second to
almost two days), a reading inside the gap has no instant; the two probes one day before / after read `ob` and `oa`;
and the instants the code re-resolves are `local − ob` (reading shifted forward by the gap: compatible, later) and
`local − oa` (shifted backward: earlier) — exactly the specification's answer. -/
theorem C13_gap_any_size (ob oa T localNs : Int) (hlt : ob < oa)
    (hob : -86400 < ob) (hoa : oa < 86400)
    (h1 : (T + ob) * 1000000000 ≤ localNs) (h2 : localNs < (T + oa) * 1000000000) :
    let z : Zone := ⟨ob, [(T, oa)]⟩
    z.possible localNs = [] ∧
    (TZ.named z).offsetNanosFor (localNs - NS_PER_DAY) = ob * 1000000000 ∧
    (TZ.named z).offsetNanosFor (localNs + NS_PER_DAY) = oa * 1000000000 ∧
    z.possible (localNs + (oa * 1000000000 - ob * 1000000000)) = [localNs - ob * 1000000000] ∧
    z.possible (localNs - (oa * 1000000000 - ob * 1000000000)) = [localNs - oa * 1000000000] ∧
    instant z localNs .compatible = some (localNs - ob * 1000000000) ∧
    instant z localNs .later = some (localNs - ob * 1000000000) ∧
    instant z localNs .earlier = some (localNs - oa * 1000000000) := by
  intro z
  -- of the two candidates `L − ob` (old offset) and `L − oa` (new offset): neither fits inside the gap, only the first
  -- fits a gap's length later, only the second a gap's length earlier
  have hposs := Zone.possible_single ob T oa (hne := by omega)
  have e0 : z.possible localNs = [] := Zone.possible_single_gap hlt h1 h2
  have e1 : z.possible (localNs + (oa * 1000000000 - ob * 1000000000)) = [localNs - ob * 1000000000] := by
    rw [hposs, if_pos (by omega), if_pos (by omega), List.nil_append, List.mergeSort_singleton]
    congr 1; omega
  have e2 : z.possible (localNs - (oa * 1000000000 - ob * 1000000000)) = [localNs - oa * 1000000000] := by
    rw [hposs, if_neg (by omega), if_neg (by omega), List.append_nil, List.mergeSort_singleton]
    congr 1; omega
  have hgap : gapOf localNs ob [(T, oa)] = some (ob, oa) := by
    unfold gapOf; rw [if_pos ⟨h1, h2⟩]
  have hinst : ∀ d, instant z localNs d = match d with
      | .reject => none
      | .earlier => some (localNs - oa * 1000000000)
      | _ => some (localNs - ob * 1000000000) := by
    intro d; unfold instant; rw [e0]; cases d <;> simp only [hgap, z, reduceCtorEq, if_true, if_false]
  refine ⟨e0, ?_, ?_, e1, e2, hinst _, hinst _, hinst _⟩
  · show z.offsetAt _ * 1000000000 = _
    rw [Zone.offsetAt_single, if_neg (by unfold NS_PER_DAY; omega)]
  · show z.offsetAt _ * 1000000000 = _
    rw [Zone.offsetAt_single, if_pos (by unfold NS_PER_DAY; omega)]

/-- **C13 (Z and `use`).** A `Z` designator, or an explicit offset under `use`, denotes the exact instant: the
date-time shifted by the offset (0 for Z), whatever the zone and the disambiguation. -/
theorem C13_exact_offset (date : IsoDate) (t : IsoTime) (off : Int) (tz : TZ) (d : Disamb) (oo : OffsetOpt) :
    interpretOffset date (some t) true none tz d oo =
      (do TZ.validDayRange (IsoDateTime.balance date.year date.month date.day t.hour t.minute t.second t.millisecond
            t.microsecond (t.nanosecond - 0)).date
          (IsoDateTime.balance date.year date.month date.day t.hour t.minute t.second t.millisecond
            t.microsecond (t.nanosecond - 0)).asNanoseconds) ∧
    interpretOffset date (some t) false (some off) tz d .use =
      (do TZ.validDayRange (IsoDateTime.balance date.year date.month date.day t.hour t.minute t.second t.millisecond
            t.microsecond (t.nanosecond - off)).date
          (IsoDateTime.balance date.year date.month date.day t.hour t.minute t.second t.millisecond
            t.microsecond (t.nanosecond - off)).asNanoseconds) := by
  constructor <;> rfl

/-- **C13 (`ignore`, or no offset).** The offset is not consulted: the wall-clock reading is resolved in the zone. -/
theorem C13_ignore_offset (date : IsoDate) (t : IsoTime) (off : Option Int) (tz : TZ) (d : Disamb) :
    interpretOffset date (some t) false off tz d .ignore = tz.epochNsFor ⟨date, t⟩ d ∧
    (∀ oo, interpretOffset date (some t) false none tz d oo = tz.epochNsFor ⟨date, t⟩ d) := by
  constructor
  · cases off <;> rfl
  · intro oo; cases oo <;> rfl

/-- `prefer` and `reject` are one path of the code: they part only when no instant of the reading has the offset. -/
theorem interpretOffset_matching (date : IsoDate) (t : IsoTime) (off utc : Int) (tz : TZ) (d : Disamb) (oo : OffsetOpt)
    (possible : List Int) (hoo : oo = .prefer ∨ oo = .reject)
    (hr : TZ.validDayRange date = .ok ()) (hu : (⟨date, t⟩ : IsoDateTime).asNanoseconds = .ok utc)
    (hp : tz.possibleFor ⟨date, t⟩ = .ok possible) :
    interpretOffset date (some t) false (some off) tz d oo =
      match possible.find? (fun c => utc - c = off ∨ RoundI128.round (utc - c) 60000000000 .halfExpand = off) with
      | some c => .ok c
      | none => if oo = .reject then .err .range else tz.disambiguate possible ⟨date, t⟩ d := by
  have hne : oo ≠ .use := by rcases hoo with rfl | rfl <;> decide
  unfold interpretOffset
  simp only [Bool.false_eq_true, if_false, if_neg hne, if_pos hoo, hr, hu, hp, Out.bind_ok]
  rfl

/-- **C13 (`prefer` / `reject`).** Among the instants of the reading, the first whose offset equals the given one —
exactly, or after rounding to the minute — is returned; if none does, `reject` is a RangeError and `prefer` falls back
to the disambiguation option. -/
theorem C13_prefer_reject (date : IsoDate) (t : IsoTime) (off utc : Int) (tz : TZ) (d : Disamb) (possible : List Int)
    (hr : TZ.validDayRange date = .ok ()) (hu : (⟨date, t⟩ : IsoDateTime).asNanoseconds = .ok utc)
    (hp : tz.possibleFor ⟨date, t⟩ = .ok possible) :
    let hit := possible.find? (fun c => utc - c = off ∨ RoundI128.round (utc - c) 60000000000 .halfExpand = off)
    interpretOffset date (some t) false (some off) tz d .reject = (match hit with | some c => .ok c | none => .err .range) ∧
    interpretOffset date (some t) false (some off) tz d .prefer =
      (match hit with | some c => .ok c | none => tz.disambiguate possible ⟨date, t⟩ d) := by
  intro hit
  constructor <;> rw [interpretOffset_matching _ _ _ utc _ _ _ possible (by decide) hr hu hp] <;> rfl

/-! Non-vacuity: the hypotheses of the gap theorem are met by a 24-hour gap (a skipped calendar day, offsets
    −10:00 → +14:00) and by a one-second gap; an overlap has two instants. -/
example : instant ⟨-36000, [(1325239200, 50400)]⟩ 1325203200000000000 .compatible = some 1325239200000000000 :=
  (C13_gap_any_size (-36000) 50400 1325239200 1325203200000000000 (by decide) (by decide) (by decide) (by decide)
    (by decide)).2.2.2.2.2.1
example : instant ⟨0, [(100, 1)]⟩ 100000000000 .earlier = some 99000000000 :=
  (C13_gap_any_size 0 1 100 100000000000 (by decide) (by decide) (by decide) (by decide) (by decide)).2.2.2.2.2.2.2
example : 1509859800000000000 ∈ (⟨-14400, [(1509861600, -18000)]⟩ : Zone).possible 1509845400000000000 ∧
    1509863400000000000 ∈ (⟨-14400, [(1509861600, -18000)]⟩ : Zone).possible 1509845400000000000 := by
  constructor <;> (rw [C13_possible_iff]; decide)

end TemporalModel

#print axioms TemporalModel.C13_possible_iff
#print axioms TemporalModel.C13_possible_sorted
#print axioms TemporalModel.C13_fixed_offset
#print axioms TemporalModel.C13_named_offset
#print axioms TemporalModel.C13_wall_exact
#print axioms TemporalModel.C13_disambiguate_matches
#print axioms TemporalModel.C13_spec_matches
#print axioms TemporalModel.C13_gap_any_size
#print axioms TemporalModel.C13_exact_offset
#print axioms TemporalModel.C13_ignore_offset
#print axioms TemporalModel.C13_prefer_reject
