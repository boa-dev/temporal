/-
  Props/C08.lean — property C08: rounding / totalling / comparing a duration relative to a plain date is
  add-then-remeasure in exact arithmetic.
  The theorems are about the arithmetic steps (`nudgeRounded`, `nudgeToDayOrTime`, `totalRelativeDuration`,
  `compareRelPlainDate`). The add / re-measure steps that feed them are the C04/C05 models: date addition and `until`
  are the subject of Props/C04.lean, the date-time difference (`IsoDateTime.diff`) has no functional theorem. Bubbling
  and the composition of the full pipeline are covered by the correspondence only (see DESIGN.md, C08).
-/
import TemporalModel.Model.Relative
import TemporalModel.Lemmas.RoundLemmas
import TemporalModel.Lemmas.DurationLemmas
namespace TemporalModel
open Out

theorem nudgeRounded_mul (r1 step num D inc : Int) (mode : RMode) (hD : 0 < D) (hinc : 0 < inc) :
    nudgeRounded r1 step num D inc mode * D = roundSpec (r1 * D + step * num) (inc * D) mode := by
  rw [nudgeRounded, RoundI128.round_eq_spec _ _ _ (Int.mul_pos hinc hD)]
  exact roundSpec_tdiv_mul _ inc D mode

theorem nudgeRounded_eq {r1 step num D inc v : Int} {mode : RMode} (hD : 0 < D) (hinc : 0 < inc)
    (h : roundSpec (r1 * D + step * num) (inc * D) mode = v * D) : nudgeRounded r1 step num D inc mode = v :=
  Int.eq_of_mul_eq_mul_right (Int.ne_of_gt hD) ((nudgeRounded_mul r1 step num D inc mode hD hinc).trans h)

/-- **C08 (calendar nudge, exactness).**  For a bracket of positive length `D`, any `r1`, `step`, numerator and
positive increment: the coded result, scaled by `D`, is RoundNumberToIncrement of the exact numerator
`r1·D + step·num` to the increment `inc·D`; i.e. it is the rounding of the rational `r1 + step·num/D` to a
multiple of `inc`, for all nine modes, with ties decided exactly. -/
theorem C08_calendar_nudge_exact (r1 step num D inc : Int) (mode : RMode) (hD : 0 < D) (hinc : 0 < inc) :
    nudgeRounded r1 step num D inc mode * D = roundSpec (r1 * D + step * num) (inc * D) mode ∧
    ∃ k, nudgeRounded r1 step num D inc mode = inc * k := by
  obtain ⟨k, -, h2⟩ := tdiv_round_mul (r1 * D + step * num) inc D mode hD hinc
  exact ⟨nudgeRounded_mul r1 step num D inc mode hD hinc, k, h2⟩

theorem nudgeRounded_between (r1 step num D inc m : Int) (mode : RMode) (hD : 0 < D) (hinc : 0 < inc)
    (h1 : inc * m * D ≤ r1 * D + step * num) (h2 : r1 * D + step * num ≤ inc * (m + 1) * D) :
    nudgeRounded r1 step num D inc mode = inc * m ∨ nudgeRounded r1 step num D inc mode = inc * (m + 1) := by
  unfold nudgeRounded
  rw [Int.mul_right_comm] at h1 h2
  rcases RoundI128.round_between _ _ m mode (Int.mul_pos hinc hD) h1 h2 with h | h <;> rw [h, Int.mul_right_comm]
  · exact Or.inl (Int.mul_tdiv_cancel _ (Int.ne_of_gt hD))
  · exact Or.inr (Int.mul_tdiv_cancel _ (Int.ne_of_gt hD))

/-- **C08 (calendar nudge, bracket).**  When `r1` is a multiple of the increment, the step is one increment in the
direction of the duration and the destination lies inside the bracket (`0 ≤ num ≤ D`), the result is one of the
two bracket ends `r1`, `r1 + step` — never beyond. -/
theorem C08_calendar_nudge_bracket (k num D inc : Int) (mode : RMode) (hD : 0 < D) (hinc : 0 < inc)
    (h0 : 0 ≤ num) (h1 : num ≤ D) (step : Int) (hs : step = inc ∨ step = -inc) :
    nudgeRounded (inc * k) step num D inc mode = inc * k ∨
    nudgeRounded (inc * k) step num D inc mode = inc * k + step := by
  have hn0 : 0 ≤ inc * num := Int.mul_nonneg (Int.le_of_lt hinc) h0
  have hn1 : inc * num ≤ inc * D := Int.mul_le_mul_of_nonneg_left h1 (Int.le_of_lt hinc)
  rcases hs with rfl | rfl
  · have := nudgeRounded_between (step * k) step num D step k mode hD hinc (by omega)
      (by rw [Int.mul_add, Int.mul_one, Int.add_mul]; omega)
    rwa [Int.mul_add, Int.mul_one] at this
  · have := nudgeRounded_between (inc * k) (-inc) num D inc (k - 1) mode hD hinc
      (by rw [Int.mul_sub, Int.mul_one, Int.sub_mul, Int.neg_mul]; omega)
      (by rw [Int.sub_add_cancel, Int.neg_mul]; omega)
    rw [Int.sub_add_cancel, Int.mul_sub, Int.mul_one] at this
    rcases this with h | h
    · right; rw [h]; omega
    · left; exact h

/-- Half-way ties of the calendar nudge are decided on the exact numerator: `2·num = D` is a tie and nothing else
is (stated for the forward direction with halfExpand / halfTrunc, the two modes that differ only on ties). -/
theorem C08_calendar_nudge_tie (k num D inc : Int) (hD : 0 < D) (hinc : 0 < inc) (h0 : 0 < num) (h1 : num < D) :
    (2 * num < D → nudgeRounded (inc * k) inc num D inc .halfExpand = inc * k) ∧
    (2 * num > D → nudgeRounded (inc * k) inc num D inc .halfTrunc = inc * k + inc) ∧
    (2 * num = D → 0 ≤ k → nudgeRounded (inc * k) inc num D inc .halfExpand = inc * k + inc ∧
                          nudgeRounded (inc * k) inc num D inc .halfTrunc = inc * k) := by
  have hq : 0 < inc * D := Int.mul_pos hinc hD
  have hin : 0 < inc * num := Int.mul_pos hinc h0
  have hlt : inc * num < inc * D := Int.mul_lt_mul_of_pos_left h1 hinc
  have e : 2 * (inc * num) = inc * (2 * num) := Int.mul_left_comm ..
  have ek : inc * k * D = inc * D * k := Int.mul_right_comm ..
  -- the exact numerator lies strictly between the multiples `k` and `k + 1` of `inc * D`
  have hlow : lowerMultiple (inc * k * D + inc * num) (inc * D) = inc * D * k :=
    lowerMultiple_unique hq (by omega) (by omega)
  -- in each case the comparison of `2·num` with `D` is scaled by `inc`; what is left is the specification's choice
  -- between the two multiples, read off its definition. On a tie halfExpand goes away from zero and halfTrunc towards
  -- it, so which multiple each picks turns on the sign of the numerator: hence `0 ≤ k`
  refine ⟨fun h => have := Int.mul_lt_mul_of_pos_left h hinc; nudgeRounded_eq hD hinc ?_,
      fun h => have := Int.mul_lt_mul_of_pos_left h hinc; nudgeRounded_eq hD hinc ?_,
      fun h hk => have := Int.mul_nonneg (Int.le_of_lt hq) hk; have : inc * (2 * num) = inc * D := by rw [h]
        ⟨nudgeRounded_eq hD hinc ?_, nudgeRounded_eq hD hinc ?_⟩⟩ <;>
    (unfold roundSpec; rw [hlow]; simp only [Int.add_mul]; omega)

/-- **C08 (day-or-time nudge).**  Whenever the coded step succeeds: the exact total `n` (time part plus 24-hour
days) is rounded by RoundNumberToIncrement; with a largest unit of days or above the result's days and remainder
recombine to exactly that rounded total with the remainder inside one day and of the same sign; the calendar
fields are untouched; and the nudged instant moved by exactly the rounding difference. -/
theorem C08_day_time_nudge (destNs : Int) (date : Dur) (norm : Int) (o : Resolved) (len : Nat) (r : NudgeRecord)
    (hlen : o.smallest.asNanoseconds = some len) (hl : 0 < len) (hinc : 0 < o.increment)
    (hL : o.largest.max .day = o.largest)
    (h : nudgeToDayOrTime destNs date norm o = .ok r) :
    let n := norm + F64.toI64Sat date.days * NS_PER_DAY
    let rounded := roundSpec n (len * o.increment) o.mode
    r.date.days * NS_PER_DAY + r.norm = rounded ∧
    (r.norm.natAbs : Int) < NS_PER_DAY ∧ (0 ≤ rounded → 0 ≤ r.norm) ∧ (rounded ≤ 0 → r.norm ≤ 0) ∧
    r.nudgeEpochNs - destNs = rounded - n ∧
    r.date.years = date.years ∧ r.date.months = date.months ∧ r.date.weeks = date.weeks := by
  have hq : 0 < (len : Int) * o.increment := Int.mul_pos (by omega) hinc
  intro n rounded
  simp only [nudgeToDayOrTime, hlen, hL, if_true, bind_eq_ok, normChecked_eq_ok, Dur.new_eq_ok,
    RoundI128.round_eq_spec _ _ _ hq, err_ite_eq_ok, pure_eq_ok, ok.injEq] at h
  -- the four binds in turn: `n`, `rounded` (its bound `hb` is kept), `diff`, the `Dur.new`; then the sign test
  obtain ⟨_, ⟨-, rfl⟩, _, ⟨hb, rfl⟩, _, ⟨-, rfl⟩, _, ⟨-, rfl⟩, -, rfl⟩ := h
  obtain ⟨t1, t2, t3, t4⟩ := tdiv_tmod_spec rounded NS_PER_DAY (by decide)
  -- the days are a quotient of a total inside the limit: a double holds them exactly
  have hdays : ((rounded.tdiv NS_PER_DAY).natAbs : Int) ≤ 9007199254740992 := by
    have : (rounded.natAbs : Int) ≤ Dur.MAX_TIME_DURATION := hb
    unfold NS_PER_DAY Dur.MAX_TIME_DURATION at *; omega
  rw [F64.ofInt_small _ hdays]
  exact ⟨t1, t2, t3, t4, Int.add_sub_cancel _ _, rfl, rfl, rfl⟩

/-- **C08 (total in a time unit or days).**  The total relative to a date in a non-calendar unit is the correctly
rounded double of the exact quotient of the re-measured nanoseconds by the unit length. -/
theorem C08_total_time_units (date : Dur) (norm destNs : Int) (dt : IsoDateTime) (unit : TUnit) (len : Nat)
    (hu : unit.isCalendarUnit = false) (hlen : unit.asNanoseconds = some len) (n : Int)
    (hn : normChecked (norm + F64.toI64Sat date.days * NS_PER_DAY) = .ok n) :
    totalRelativeDuration date norm destNs dt unit = .ok (durationTotal n len) := by
  unfold totalRelativeDuration
  simp only [hu, Bool.false_eq_true, if_false, hn, Out.bind_ok, hlen, Out.pure_eq_ok]

/-- The instant a duration leads to from a reference date: calendar part added with constrain, then exact days
and time (nanoseconds since the epoch day of the reference, up to the common offset). -/
def destinationNs (d : Dur) (rel : IsoDate) (later : IsoDate) : Int :=
  (isoDateToEpochDays later.year later.month later.day - isoDateToEpochDays rel.year rel.month rel.day
    + F64.toI64Sat d.days) * NS_PER_DAY + d.timeNs

theorem destinationNs_eq (d : Dur) (rel later : IsoDate) :
    d.timeNs + (F64.toI64Sat d.days + (isoDateToEpochDays later.year later.month later.day -
      isoDateToEpochDays rel.year rel.month rel.day)) * NS_PER_DAY = destinationNs d rel later := by
  unfold destinationNs NS_PER_DAY; omega

/-- **C08 (compare).**  Relative to a date, two different durations with calendar units are ordered as the instants
they lead to: each calendar part is added to the reference date (constrain), days and time are added exactly, and
the resulting instants are compared. -/
theorem C08_compare_orders_destinations (a b : Dur) (rel la lb : IsoDate) (hne : a ≠ b)
    (hcal : a.defaultLargestUnit.isCalendarUnit ∨ b.defaultLargestUnit.isCalendarUnit)
    (ha : ¬ (a.years = 0 ∧ a.months = 0 ∧ a.weeks = 0)) (hb : ¬ (b.years = 0 ∧ b.months = 0 ∧ b.weeks = 0))
    (hla : plainDateAdd rel (dateDur a.years a.months a.weeks 0) .constrain = .ok la)
    (hlb : plainDateAdd rel (dateDur b.years b.months b.weeks 0) .constrain = .ok lb)
    (ba : ((destinationNs a rel la).natAbs : Int) ≤ Dur.MAX_TIME_DURATION)
    (bb : ((destinationNs b rel lb).natAbs : Int) ≤ Dur.MAX_TIME_DURATION) :
    Dur.compareRelPlainDate a b rel = .ok (cmpInt (destinationNs a rel la) (destinationNs b rel lb)) := by
  unfold Dur.compareRelPlainDate dateDurationDays
  simp only [if_neg hne, if_pos hcal, if_neg ha, if_neg hb, hla, hlb, Out.bind_ok, Out.pure_eq_ok]
  rw [destinationNs_eq, destinationNs_eq, normChecked_of_le ba, normChecked_of_le bb]
  simp only [Out.bind_ok, cmpInt]

/-- `compare` of a duration with itself is 0 whatever the reference. -/
theorem C08_compare_refl (a : Dur) (rel : IsoDate) : Dur.compareRelPlainDate a a rel = .ok 0 := by
  unfold Dur.compareRelPlainDate
  rw [if_pos rfl]

-- 182 of 365 days, halfTrunc → down; 183 of 365 → up; 183 of 366 is a tie
example : nudgeRounded 0 1 182 365 1 .halfTrunc = 0 := by decide
example : nudgeRounded 0 1 183 365 1 .halfExpand = 1 := by decide
example : nudgeRounded 0 1 183 366 1 .halfExpand = 1 ∧ nudgeRounded 0 1 183 366 1 .halfTrunc = 0 := by decide
example : nudgeRounded 0 (-1) 183 366 1 .halfExpand = -1 ∧ nudgeRounded 0 (-1) 183 366 1 .halfTrunc = 0 := by decide

end TemporalModel

#print axioms TemporalModel.C08_calendar_nudge_exact
#print axioms TemporalModel.C08_calendar_nudge_bracket
#print axioms TemporalModel.C08_calendar_nudge_tie
#print axioms TemporalModel.C08_day_time_nudge
#print axioms TemporalModel.C08_total_time_units
#print axioms TemporalModel.C08_compare_orders_destinations
#print axioms TemporalModel.C08_compare_refl
