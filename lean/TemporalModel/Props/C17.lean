/-
  Props/C17.lean — property C17: with / from_partial use only supplied fields; constrain clamps, reject errors.
-/
import TemporalModel.Lemmas.MergeLemmas
namespace TemporalModel
open Greg

/-- **PlainTime::with = reference merge**, for every receiver, every subset of fields, every field value, both modes. -/
theorem C17_time_with_spec (t : IsoTime) (p : PartialTime) (ov : Overflow) :
    plainTimeWith t p (some ov) = mergeTimeSpec t p ov := by
  unfold plainTimeWith mergeTimeSpec isoTimeWith isoTimeNew
  cases ov with
  | constrain => rfl
  | reject => simp only [Option.getD_some, IsoTime.isValid_iff]

/-- Applying a time's own fields to itself is the identity. -/
theorem C17_time_with_self (t : IsoTime) (ov : Overflow) (ht : t.isValid = true) :
    plainTimeWith t ⟨some t.hour, some t.minute, some t.second, some t.millisecond, some t.microsecond,
      some t.nanosecond⟩ (some ov) = .ok t := by
  rw [C17_time_with_spec]
  have hb := (IsoTime.isValid_iff t).mp ht
  cases ov with
  | constrain =>
    obtain ⟨h0, h23, mi0, mi59, s0, s59, ms0, ms999, us0, us999, ns0, ns999⟩ := hb
    simp only [mergeTimeSpec, PartialTime.isEmpty, Option.isNone_some, Bool.and_self, Bool.false_eq_true, if_false,
      Option.getD_some, clamp_eq_self h0 h23, clamp_eq_self mi0 mi59, clamp_eq_self s0 s59, clamp_eq_self ms0 ms999,
      clamp_eq_self us0 us999, clamp_eq_self ns0 ns999]
  | reject => exact if_pos hb

/-- An empty record is a TypeError for every type. -/
theorem C17_empty_is_type (r : IsoDate) (t : IsoTime) (ov : Option Overflow) :
    plainDateWith r ⟨none, none, none, none, false, none⟩ ov = .err .type ∧
    plainTimeWith t ⟨none, none, none, none, none, none⟩ ov = .err .type ∧
    plainTimeFromPartial ⟨none, none, none, none, none, none⟩ ov = .err .type ∧
    plainDateTimeWith ⟨r, t⟩ ⟨none, none, none, none, false, none⟩ ⟨none, none, none, none, none, none⟩ ov = .err .type ∧
    plainDateFromPartial ⟨none, none, none, none, false, none⟩ ov = .err .type :=
  ⟨rfl, rfl, rfl, rfl, rfl⟩

/-- from_partial requires year (or era + era year), month (or month code) and day: otherwise TypeError. -/
theorem C17_missing_is_type (p : PartialDate) (ov : Option Overflow)
    (h : (p.year = none ∧ ¬ (p.era = true ∧ p.eraYear.isSome)) ∨ (p.month = none ∧ p.monthCode = none) ∨ p.day = none) :
    plainDateFromPartial p ov = .err .type := by
  unfold plainDateFromPartial
  refine if_pos ?_
  rcases h with ⟨h1, h2⟩ | ⟨h1, h2⟩ | h1
  · rw [← Bool.and_eq_true, Bool.not_eq_true] at h2
    simp only [h1, h2, Option.isSome_none, Bool.or_false, Bool.not_false, Bool.true_or]
  · simp only [h1, h2, Option.isSome_none, Bool.or_false, Bool.not_false, Bool.or_true, Bool.true_or]
  · simp only [h1, Option.isNone_none, Bool.or_true]

/-- **`PlainDate::with` = the reference merge**, for every receiver, every subset of supplied fields (all 2^k),
    every field value, both overflow modes. -/
theorem C17_date_with_spec (r : IsoDate) (p : PartialDate) (ov : Overflow) (hr : 1 ≤ r.month ∧ r.month ≤ 12) :
    plainDateWith r p (some ov) = mergeDateSpec r p ov := by
  unfold plainDateWith mergeDateSpec
  cases hp : p.isEmpty
  case true => rfl
  simp only [Bool.false_eq_true, if_false, Option.getD_some]
  obtain ⟨mm, cc, hwf, hnamed, hspec⟩ := PartialDate.withFallback_ok p r.year r.month r.day true hr
  rw [hwf, Out.bind_ok, dateFromPartial, resolvedFieldsIso_eq, eraYearIso_merged,
    resolveIsoMonth_num _ ov r.month hnamed, hspec]
  -- each step is now the specification's rule; the rest is the same `do` block bracketed differently
  simp only [resolveDay, reduceCtorEq, decide_false, Bool.false_eq_true, if_false, if_true, Out.bind_assoc, Out.ite_bind,
    Out.bind_err, Out.bind_ok, Out.pure_eq_ok]

/-- The year is never changed unless supplied; month and day follow the spec's rules on the *resulting* year
    and month (so an unsupplied day changes only when clamping forces it). -/
theorem C17_year_untouched (r x : IsoDate) (p : PartialDate) (ov : Overflow) (hr : 1 ≤ r.month ∧ r.month ≤ 12)
    (h : plainDateWith r p (some ov) = .ok x) : x.year = p.year.getD r.year := by
  have : (mergeDateSpec r p ov).Ensures (·.year = p.year.getD r.year) := by simp only [mergeDateSpec, ensures]
  exact this x (C17_date_with_spec r p ov hr ▸ h)

/-- **Applying a date's own fields to itself is the identity** (both modes). -/
theorem C17_date_with_self (r : IsoDate) (ov : Overflow) (hr : InRange r) :
    plainDateWith r ⟨some r.year, some r.month, some ⟨r.month.toNat, false⟩, some r.day, false, none⟩ (some ov) = .ok r := by
  obtain ⟨hm1, hm12, hd1, hdm⟩ := hr.1
  rw [C17_date_with_spec r _ ov ⟨hm1, hm12⟩]
  simp only [mergeDateSpec, PartialDate.isEmpty, Option.isNone_some, Bool.false_and, Bool.false_eq_true, if_false,
    Option.getD_some, Option.isSome_none, or_self, (mergeMonthSpec_code_of_mem hm1 hm12 r.month ov).2, Out.bind_ok,
    mergeDaySpec_of_mem hd1 hdm]
  exact IsoDate.newWithOverflow_of_inRange r ov hr

/-! `with({month: 14})` clamps under constrain (the defect fixed in 95809b6) and is refused under reject; an unsupplied
    day is clamped to the new month; a month and a month code that disagree are a RangeError. -/
example : plainDateWith ⟨2021, 6, 30⟩ ⟨none, some 14, none, none, false, none⟩ (some .constrain) = .ok ⟨2021, 12, 30⟩ := by decide
example : plainDateWith ⟨2021, 6, 30⟩ ⟨none, some 14, none, none, false, none⟩ (some .reject) = .err .range := by decide
example : plainDateWith ⟨2021, 6, 30⟩ ⟨none, some 2, none, none, false, none⟩ (some .constrain) = .ok ⟨2021, 2, 28⟩ := by decide
example : plainDateWith ⟨2021, 6, 30⟩ ⟨none, some 11, some ⟨12, false⟩, none, false, none⟩ (some .constrain) = .err .range := by decide

end TemporalModel

#print axioms TemporalModel.C17_time_with_spec
#print axioms TemporalModel.C17_time_with_self
#print axioms TemporalModel.C17_empty_is_type
#print axioms TemporalModel.C17_missing_is_type
#print axioms TemporalModel.C17_date_with_spec
#print axioms TemporalModel.C17_year_untouched
#print axioms TemporalModel.C17_date_with_self
