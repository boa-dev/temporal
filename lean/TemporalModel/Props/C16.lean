/-
  Props/C16.lean — C16: non-ISO calendar fields describe the same day as the ISO date, for the modelled calendars
  (gregory, buddhist, roc, japanese: the ISO date under another year numbering; coptic, ethiopic, ethioaa, indian,
  islamic-civil, islamic-tbla, persian: day counts) and EVERY date of Temporal's range.  The one exception is a
  property of the code and is proved as such: a `japanese` date with a non-positive year cannot be rebuilt from its
  year alone.  The Hebrew calendar is in Props/C16Hebrew.lean.
-/
import TemporalModel.Lemmas.CalRebuild
namespace TemporalModel
namespace Cal
open Greg NS

/-- C16 (day ↔ date, every day-count calendar): converting a day to (year, month, day) gives an existing date whose
    day number is that day, and converting an existing date to its day number and back gives the date. -/
theorem C16_daycount_inverse (cal : CalId) (c : ACal) (h : cal.arith = some c) :
    (∀ n, InDayWin n → c.Valid (c.ofDay n).1 (c.ofDay n).2.1 (c.ofDay n).2.2 ∧
        c.toDay (c.ofDay n).1 (c.ofDay n).2.1 (c.ofDay n).2.2 = n) ∧
    (∀ y m d, c.Valid y m d → InDayWin (c.toDay y m d) → c.ofDay (c.toDay y m d) = (y, m, d)) :=
  ⟨fun n _ => ofDay_spec (arith_lawful cal c h) n, fun y m d hv _ => ofDay_toDay (arith_lawful cal c h) y m d hv⟩

/-- **C16 (bounds)**: for every modelled calendar and every date in range, day ≤ days-in-month, month ≤
    months-in-year, day-of-year ≤ days-in-year, the month code agrees with the month, era and era year come
    together. -/
theorem C16_fields_bounds (cal : CalId) (iso : IsoDate) (hr : InRange iso) (f : CalFields)
    (hf : fields cal iso = some f) : FieldsOk f := by
  rcases fields_cases hf with ⟨_, rfl⟩ | ⟨c, hc, rfl⟩
  · exact isoFields_ok cal _ _ _ hr.1
  · exact arithFields_ok cal c hc _

def nextIso (iso : IsoDate) : IsoDate :=
  ⟨(nextDay iso.year iso.month iso.day).1, (nextDay iso.year iso.month iso.day).2.1,
   (nextDay iso.year iso.month iso.day).2.2⟩

/-- **C16 (consecutive days)**: for every modelled calendar, the fields of the next ISO day are those of the next
    calendar day: the day advances by one inside the month, or the month by one from the last day of a month, or
    the year by one from the last day of the last month; day-of-year follows; the era year follows the year or a new
    era starts at 1. -/
theorem C16_consecutive_days (cal : CalId) (iso : IsoDate) (hr : InRange iso) (hr' : InRange (nextIso iso))
    (a b : CalFields) (ha : fields cal iso = some a) (hb : fields cal (nextIso iso) = some b) :
    Consecutive a b := by
  rcases fields_cases ha with ⟨hiso, rfl⟩ | ⟨c, hc, rfl⟩
  · rw [fields_iso cal hiso] at hb
    cases hb
    exact isoFields_consecutive cal _ _ _ hr.1
  · rw [fields_arith cal c hc] at hb
    cases hb
    have hd : dayNumber (nextIso iso).year (nextIso iso).month (nextIso iso).day =
        dayNumber iso.year iso.month iso.day + 1 := dayNumber_succ _ _ _ hr.1
    rw [hd]
    exact arithFields_consecutive cal c hc _

def byCode (f : CalFields) : CalPartial := ⟨none, none, some f.year, none, some f.monthCode, some f.day⟩
def byMonth (f : CalFields) : CalPartial := ⟨none, none, some f.year, some f.month, none, some f.day⟩
def byEra (f : CalFields) : CalPartial := ⟨f.era, f.eraYear, none, none, some f.monthCode, some f.day⟩

/-- The year route through the crate: any record that resolves to the reported year (no era), the reported month
    code and the reported day is rebuilt into the date. -/
theorem rebuild_year_route (cal : CalId) (hne : cal ≠ .iso8601) (iso : IsoDate) (hr : InRange iso)
    (hj : cal = .japanese → 1 ≤ iso.year) (f : CalFields) (hf : fields cal iso = some f) (p : CalPartial)
    (ov : Overflow) (hres : resolveEraYear cal p = .ok (none, f.year)) (hcode : resolveCode cal p = .ok f.monthCode)
    (hd : p.day = some f.day) : dateFromPartialCal cal p ov = .ok iso :=
  dateFromPartialCal_of cal p none f.year f.monthCode f.day iso ov hres hcode hd (fields_year_bound cal iso hr f hf)
    (fromCodes_fields cal hne iso hr hj f hf) hr

/-- **C16 (rebuild from year, month code, day)**: for every modelled non-ISO calendar and every date in range,
    `from_partial` with the reported year, month code and day returns the original ISO date, in either overflow
    mode.  (`japanese`: for years ≥ 1 — see `C16_japanese_nonpositive_year`.) -/
theorem C16_rebuild_from_year_code (cal : CalId) (hne : cal ≠ .iso8601) (iso : IsoDate) (hr : InRange iso)
    (hj : cal = .japanese → 1 ≤ iso.year) (f : CalFields) (hf : fields cal iso = some f) (ov : Option Overflow) :
    plainDateFromPartialCal cal (byCode f) ov = .ok iso := by
  obtain ⟨hv, _⟩ := fields_code_shape cal iso hr f hf
  exact rebuild_year_route cal hne iso hr hj f hf (byCode f) _ rfl (resolveCode_of_code rfl (.inl rfl) hv) rfl

/-- **C16 (rebuild from year, month, day)**: the same through the ordinal month. -/
theorem C16_rebuild_from_year_month (cal : CalId) (hne : cal ≠ .iso8601) (iso : IsoDate) (hr : InRange iso)
    (hj : cal = .japanese → 1 ≤ iso.year) (f : CalFields) (hf : fields cal iso = some f) (ov : Option Overflow) :
    plainDateFromPartialCal cal (byMonth f) ov = .ok iso := by
  obtain ⟨hv, hm⟩ := fields_code_shape cal iso hr f hf
  exact rebuild_year_route cal hne iso hr hj f hf (byMonth f) _ rfl (by simp only [resolveCode, byMonth, hm, hv, Out.bind_ok, Out.pure_eq_ok]) rfl

theorem rebuild_era_route (cal : CalId) (hne : cal ≠ .iso8601) (iso : IsoDate) (hr : InRange iso) (f : CalFields)
    (hf : fields cal iso = some f) (ov : Overflow) : dateFromPartialCal cal (byEra f) ov = .ok iso := by
  obtain ⟨hv, _⟩ := fields_code_shape cal iso hr f hf
  obtain ⟨e, ey, hres, hyb, hlib⟩ := era_route cal hne iso hr f hf
  exact dateFromPartialCal_of cal (byEra f) e ey f.monthCode f.day iso ov hres (resolveCode_of_code rfl (.inl rfl) hv)
    rfl hyb hlib hr

/-- **C16 (rebuild from era, era year, month code, day)**: for every modelled non-ISO calendar and EVERY date in
    range, the reported era is in the crate's table, the reported era year inside that era's bounds, the table's
    code is one the library accepts with the same meaning, and `from_partial` returns the original ISO date. -/
theorem C16_rebuild_from_era (cal : CalId) (hne : cal ≠ .iso8601) (iso : IsoDate) (hr : InRange iso)
    (f : CalFields) (hf : fields cal iso = some f) (ov : Option Overflow) :
    plainDateFromPartialCal cal (byEra f) ov = .ok iso := by
  obtain ⟨he, hy⟩ := (era_route cal hne iso hr f hf).has_era
  have h := rebuild_era_route cal hne iso hr f hf (ov.getD .constrain)
  -- with both present the guard of `from_partial` evaluates
  simp only [plainDateFromPartialCal, byEra, he, hy]
  exact h

/-- **C16 (updating a date with its own fields is the identity)**: `with` merges the given fields into the receiver's
    own — its calendar year, its month code, its day — and rebuilds; given any subset of the receiver's own year,
    month code and day (here: the day, the least `with` accepts) the merged record is the receiver's (year, month
    code, day) and the result is the receiver, for every modelled non-ISO calendar and every date in range
    (`japanese`: from 1 CE, see C16_japanese_nonpositive_year). -/
theorem C16_with_own_fields_identity (cal : CalId) (hne : cal ≠ .iso8601) (iso : IsoDate) (hr : InRange iso)
    (hj : cal = .japanese → 1 ≤ iso.year) (f : CalFields) (hf : fields cal iso = some f) (ov : Option Overflow) :
    mergeFieldsCal f ⟨none, none, none, none, none, some f.day⟩ = byCode f ∧
    mergeFieldsCal f ⟨none, none, some f.year, none, some f.monthCode, none⟩ =
      ⟨none, none, some f.year, some (f.monthCode.num : Int), some f.monthCode, some f.day⟩ ∧
    plainDateWithCal cal f ⟨none, none, none, none, none, some f.day⟩ ov = .ok iso :=
  -- the record is not empty and merges to { year, monthCode, day }, by evaluation
  ⟨rfl, rfl, C16_rebuild_from_year_code cal hne iso hr hj f hf ov⟩

/-- … and when given back its own era and era year, or its own year, or its own month code: for EVERY date in range
    (the era route has no exception). -/
theorem C16_with_own_era_identity (cal : CalId) (hne : cal ≠ .iso8601) (iso : IsoDate) (hr : InRange iso)
    (f : CalFields) (hf : fields cal iso = some f) (ov : Option Overflow) :
    plainDateWithCal cal f ⟨f.era, f.eraYear, none, none, none, none⟩ ov = .ok iso := by
  obtain ⟨e, he⟩ := Option.isSome_iff_exists.mp (era_route cal hne iso hr f hf).has_era.1
  have h := rebuild_era_route cal hne iso hr f hf (ov.getD .constrain)
  -- with the era present the record is not empty and merges to { era, eraYear, monthCode, day }, by evaluation
  simp only [plainDateWithCal, byEra, he] at h ⊢
  exact h

theorem C16_with_own_year_or_code_identity (cal : CalId) (hne : cal ≠ .iso8601) (iso : IsoDate) (hr : InRange iso)
    (hj : cal = .japanese → 1 ≤ iso.year) (f : CalFields) (hf : fields cal iso = some f) (ov : Option Overflow) :
    plainDateWithCal cal f ⟨none, none, some f.year, none, none, none⟩ ov = .ok iso ∧
    plainDateWithCal cal f ⟨none, none, none, none, some f.monthCode, none⟩ ov = .ok iso := by
  obtain ⟨hv, _⟩ := fields_code_shape cal iso hr f hf
  -- the first record merges to { year, monthCode, day }; the second also carries the month number of the code,
  -- which agrees with it
  exact ⟨rebuild_year_route cal hne iso hr hj f hf _ _ rfl (resolveCode_of_code rfl (.inl rfl) hv) rfl,
    rebuild_year_route cal hne iso hr hj f hf _ _ rfl (resolveCode_of_code rfl (.inr rfl) hv) rfl⟩

/-- Asked for day 1 of the reported year and month, the library returns (if anything) an existing ISO date whose
    calendar fields are that year, that month code and day 1. -/
theorem lib_first_of_month (cal : CalId) (hne : cal ≠ .iso8601) (iso : IsoDate) (hr : InRange iso)
    (hj : cal = .japanese → 1 ≤ iso.year) (f : CalFields) (hf : fields cal iso = some f) (r : IsoDate)
    (h : fromCodes cal none f.year f.monthCode 1 = some r) :
    Greg.Valid r.year r.month r.day ∧
    ∃ g, fields cal r = some g ∧ g.year = f.year ∧ g.monthCode = f.monthCode ∧ g.day = 1 := by
  rcases fields_cases hf with ⟨hiso, rfl⟩ | ⟨c, hc, rfl⟩
  · obtain ⟨v1, v2, v3, v4⟩ := hr.1
    have hv1 : Greg.Valid iso.year iso.month 1 := ⟨v1, v2, by omega, by omega⟩
    -- year and month code do not depend on the day
    have hy : (isoFields cal iso.year iso.month iso.day).year = (isoFields cal iso.year iso.month 1).year := by
      simp only [isoFields, yearInfo_year]
    rw [hy] at h
    cases h.symm.trans (fromCodes_isoFields cal hiso hne _ _ _ hv1 hj)
    exact ⟨hv1, _, fields_iso cal hiso _, hy.symm, rfl, rfl⟩
  · have hl := arith_lawful cal c hc
    obtain ⟨⟨w1, w2, w3, w4⟩, _⟩ := ofDay_spec hl (Greg.dayNumber iso.year iso.month iso.day)
    rw [fromCodes_arith cal c hc, arithFields_year cal c hc] at h
    simp only [arithFields, arithFromCodes, Bool.false_eq_true, false_or] at h
    obtain ⟨y, m, d, hymd⟩ : ∃ y m d, c.ofDay (Greg.dayNumber iso.year iso.month iso.day) = (y, m, d) := ⟨_, _, _, rfl⟩
    simp only [hymd] at w1 w2 w3 w4 h
    -- day 1 of the month exists; the library turns it into the ISO date at its day number
    have hv1 : c.Valid y m 1 := ⟨w1, w2, Int.le_refl 1, by omega⟩
    rw [if_neg (by omega), if_neg (by have := hv1.2.2.2; omega)] at h
    obtain ⟨hv', hd'⟩ := isoOfDay_eq_some h
    have e1 : c.ofDay (c.toDay y m 1) = (y, m, 1) := ofDay_toDay hl y m 1 hv1
    refine ⟨hv', _, by rw [fields_arith cal c hc, hd'], ?_, ?_, ?_⟩
    · rw [arithFields_year cal c hc, arithFields_year cal c hc, e1, hymd]
    · simp only [arithFields, e1, hymd]
    · simp only [arithFields, e1]

/-- **C16 (the year-month of a date is the first day of its calendar month)**: whenever `to_plain_year_month`
    succeeds for a date of a modelled non-ISO calendar, the ISO reference date it stores is a day whose calendar
    fields are the date's year, the date's month code, and day 1 (`japanese`: from 1 CE). -/
theorem C16_year_month_first_of_month (cal : CalId) (hne : cal ≠ .iso8601) (iso : IsoDate) (hr : InRange iso)
    (hj : cal = .japanese → 1 ≤ iso.year) (f : CalFields) (hf : fields cal iso = some f) (r : IsoDate)
    (h : dateToYearMonthCal cal f = .ok r) :
    ∃ g, fields cal r = some g ∧ g.year = f.year ∧ g.monthCode = f.monthCode ∧ g.day = 1 := by
  obtain ⟨hv, _⟩ := fields_code_shape cal iso hr f hf
  have hyb := fields_year_bound cal iso hr f hf
  have hg : ¬ (f.year < -MAX_CALENDAR_YEAR ∨ f.year > MAX_CALENDAR_YEAR) := by omega
  -- the merge of nothing into the receiver is { year, monthCode, day }; the day is then replaced by 1
  have hres : resolveEraYear cal (byCode f) = .ok (none, f.year) := rfl
  have hcode : resolveCode cal (byCode f) = .ok f.monthCode := resolveCode_of_code rfl (.inl rfl) hv
  unfold dateToYearMonthCal yearMonthFromPartialCal at h
  rw [show mergeFieldsCal f ⟨none, none, none, none, none, none⟩ = byCode f from rfl] at h
  simp only [hres, hcode, Out.bind_ok, hg, if_false] at h
  cases hlib : fromCodes cal none f.year f.monthCode 1 with
  | none => rw [hlib] at h; cases h
  | some r0 =>
    rw [hlib] at h
    obtain ⟨hv0, hg0⟩ := lib_first_of_month cal hne iso hr hj f hf r0 hlib
    cases yearMonthNew_constrain_ok _ _ _ hv0 r h
    exact hg0

/-- Non-vacuity: 2020-03-15 is 25 Esfand 1398 AP; its year-month is stored as 2020-02-20, 1 Esfand 1398. -/
example : (fields .persian ⟨2020, 3, 15⟩).map (fun f => (f.year, f.monthCode, f.day, dateToYearMonthCal .persian f)) =
    some (1398, ⟨12, false⟩, 25, .ok ⟨2020, 2, 20⟩) := by decide +kernel

/-- The exception, as a fact about the code: a `japanese` date of year 0 reports year 0, and the library refuses a
    non-positive year given without an era, so the year route fails (the era route works, by the theorem above). -/
theorem C16_japanese_nonpositive_year :
    fields .japanese ⟨0, 1, 1⟩ = some (isoFields .japanese 0 1 1) ∧
    plainDateFromPartialCal .japanese (byCode (isoFields .japanese 0 1 1)) (some .reject) = .err .range := by
  decide +kernel

/-- The crate's year guard: a year or era year beyond ±300000 is a RangeError before the library is asked. -/
theorem C16_year_guard (cal : CalId) (p : CalPartial) (ov : Overflow) (e : Option String) (y : Int) (c : MonthCode)
    (d : Int) (hres : resolveFields cal p = .ok (e, y, c, d)) (hy : y < -300000 ∨ y > 300000) :
    dateFromPartialCal cal p ov = .err .range := by
  have hy' : y < -MAX_CALENDAR_YEAR ∨ y > MAX_CALENDAR_YEAR := hy
  unfold dateFromPartialCal
  simp only [hres, Out.bind_ok, hy', if_true]

/-- **C16 (changing the calendar keeps the ISO date)**: `with_calendar` rebuilds the value from its ISO fields, which
    for a date in range is the same ISO date; its calendar fields are then a function of that date alone. -/
theorem C16_with_calendar_keeps_iso (iso : IsoDate) (hr : InRange iso) :
    plainDateTryNew iso.year iso.month iso.day = .ok iso :=
  IsoDate.newWithOverflow_of_inRange iso .reject hr

/-- **C16 (era names)**: every era name in the crate's table is a code the library accepts for that calendar
    (a name it does not know makes every date of that era unbuildable). -/
theorem C16_era_names_accepted : ∀ r ∈ eraTable, ∀ c ∈ r.cals, r.info.name ∈ libraryAccepts c := by
  decide +kernel

/-- **C16 (reported eras are aliases)**: every era code a calendar reports is accepted back by the crate. -/
theorem C16_reported_eras_accepted : ∀ c ∈ CalId.all, ∀ e ∈ reportedEras c, (eraInfo c e).isSome = true := by
  decide +kernel

/-- **C16 (aliases are unambiguous)**: within one calendar no alias is claimed by two rows of the table, so the order
    of the rows does not matter and every alias of a row names that row's era. -/
theorem C16_alias_unambiguous :
    ∀ r1 ∈ eraTable, ∀ r2 ∈ eraTable, ∀ c ∈ r1.cals, c ∈ r2.cals → ∀ a ∈ r1.aliases, a ∈ r2.aliases →
      r1.info = r2.info := by
  decide +kernel

/-- Every alias of a row resolves to that row's era. -/
theorem C16_alias_resolves : ∀ r ∈ eraTable, ∀ c ∈ r.cals, ∀ a ∈ r.aliases, eraInfo c a = some r.info := by
  decide +kernel

private theorem lowerChar_idem_upper : ∀ k : Fin 26,
    lowerChar (lowerChar (Char.ofNat (65 + k.val))) = lowerChar (Char.ofNat (65 + k.val)) := by
  decide

theorem lowerChar_idem (c : Char) : lowerChar (lowerChar c) = lowerChar c := by
  by_cases h : 'A' ≤ c ∧ c ≤ 'Z'
  · have h1 : 65 ≤ c.toNat := h.1
    have h2 : c.toNat ≤ 90 := h.2
    have := lowerChar_idem_upper ⟨c.toNat - 65, by omega⟩
    have e : 65 + (c.toNat - 65) = c.toNat := by omega
    simp only [e, Char.ofNat_toNat] at this
    exact this
  · unfold lowerChar
    rw [if_neg h, if_neg h]

/-- **C16 (case-insensitive)**: an identifier and any re-casing of it (same lower-case form) are recognised alike. -/
theorem C16_identifier_case_insensitive (s t : List Char) (h : asciiLower s = asciiLower t) :
    calFromId s = calFromId t := by
  unfold calFromId; rw [h]

theorem C16_identifier_lower_idem (s : List Char) : calFromId (asciiLower s) = calFromId s := by
  apply C16_identifier_case_insensitive
  unfold asciiLower
  rw [List.map_map]
  apply List.map_congr_left
  intro c _
  exact lowerChar_idem c

/-- **C16 (canonical identifier)**: every calendar's canonical identifier is recognised as that calendar, so the
    identifier a recognised calendar reports parses back to the same calendar. -/
theorem C16_identifier_canonical : ∀ c ∈ CalId.all, calFromId c.name.toList = .ok c := by
  decide +kernel

theorem C16_identifier_roundtrip (s : List Char) (c : CalId) (h : calFromId s = .ok c) :
    calFromId c.name.toList = .ok c := by
  have : c ∈ CalId.all := by cases c <;> decide
  exact C16_identifier_canonical c this

-- Non-vacuity

example : InRange ⟨2024, 3, 15⟩ ∧ InRange (nextIso ⟨2024, 3, 15⟩) := by
  unfold InRange; decide +kernel
example : (fields .coptic ⟨2024, 3, 15⟩).map CalFields.render = some "coptic 1740 1740 7 M07 6 186 30 365 13 0" := by
  decide +kernel
example : (fields .japanese ⟨2019, 5, 1⟩).map (·.era) = some (some "reiwa") ∧
    (fields .japanese ⟨2019, 4, 30⟩).map (·.eraYear) = some (some 31) := by decide +kernel
example : (fields .indian ⟨2024, 3, 21⟩).map (fun f => (f.year, f.month, f.day)) = some (1946, 1, 1) := by decide +kernel
example : (fields .islamicCivil ⟨622, 7, 19⟩).map (fun f => (f.year, f.month, f.day)) = some (1, 1, 1) := by decide +kernel
example : (fields .ethioaa ⟨2024, 9, 10⟩).map (fun f => (f.eraYear, f.year, f.month, f.day)) =
    some (some 7516, 2016, 13, 5) := by decide +kernel
example : plainDateFromPartialCal .ethioaa ⟨none, none, some 2016, some 13, none, some 5⟩ (some .reject) =
    .ok ⟨2024, 9, 10⟩ := by decide +kernel
example : plainDateFromPartialCal .gregory ⟨some "bce", some 44, none, some 3, none, some 15⟩ none =
    .ok ⟨-43, 3, 15⟩ := by decide +kernel
example : plainDateFromPartialCal .japanese ⟨some "taisho", some 1, none, none, some ⟨7, false⟩, some 30⟩ none =
    .ok ⟨1912, 7, 30⟩ := by decide +kernel
example : plainDateFromPartialCal .japanese ⟨some "taisho", some 1, none, none, some ⟨7, false⟩, some 29⟩ none =
    .err .range := by decide +kernel
example : (fields .persian ⟨2024, 3, 20⟩).map (fun f => (f.year, f.month, f.day, f.inLeapYear)) =
    some (1403, 1, 1, true) := by decide +kernel
example : plainDateFromPartialCal .roc ⟨some "roc", some 2147483647, none, none, some ⟨2, false⟩, some 28⟩ none =
    .err .range := by decide +kernel
example : calFromId "IsLaMiC-CiViL".toList = .ok .islamicCivil ∧ calFromId "islamicc".toList = .ok .islamicCivil ∧
    calFromId "julian".toList = .err .range := by decide +kernel

end Cal

open Greg

/-- **C16 (changing the calendar keeps the ISO date-time)**: `PlainDateTime::with_calendar` rebuilds the value from
    its ISO fields; for a value that exists (valid date, valid time, inside the limits) that is the same value. -/
theorem C16_with_calendar_keeps_datetime (dt : IsoDateTime) (hv : Valid dt.date.year dt.date.month dt.date.day)
    (ht : dt.time.isValid = true) (hl : isoDtWithinValidLimits dt.date dt.time = true) :
    plainDateTimeTryNew dt.date.year dt.date.month dt.date.day dt.time.hour dt.time.minute dt.time.second
      dt.time.millisecond dt.time.microsecond dt.time.nanosecond = .ok dt := by
  unfold plainDateTimeTryNew plainTimeTryNew
  simp only [ht, if_true, Out.bind_ok, IsoDate.regulate_reject, hv, IsoDateTime.new, hl]

/-- **C16 (changing the calendar keeps the instant)**: `ZonedDateTime::with_calendar` rebuilds the value from its
    epoch nanoseconds, which are inside the instant range. -/
theorem C16_with_calendar_keeps_instant (ns : Int) (h : -nsMaxInstant ≤ ns ∧ ns ≤ nsMaxInstant) :
    instantTryNew ns = .ok ns := by
  unfold instantTryNew; rw [if_pos h]

end TemporalModel

#print axioms TemporalModel.Cal.C16_daycount_inverse
#print axioms TemporalModel.Cal.C16_fields_bounds
#print axioms TemporalModel.Cal.C16_consecutive_days
#print axioms TemporalModel.Cal.C16_rebuild_from_year_code
#print axioms TemporalModel.Cal.C16_rebuild_from_year_month
#print axioms TemporalModel.Cal.C16_rebuild_from_era
#print axioms TemporalModel.Cal.C16_japanese_nonpositive_year
#print axioms TemporalModel.Cal.C16_year_guard
#print axioms TemporalModel.Cal.C16_with_calendar_keeps_iso
#print axioms TemporalModel.Cal.C16_era_names_accepted
#print axioms TemporalModel.Cal.C16_reported_eras_accepted
#print axioms TemporalModel.Cal.C16_alias_unambiguous
#print axioms TemporalModel.Cal.C16_alias_resolves
#print axioms TemporalModel.Cal.C16_identifier_case_insensitive
#print axioms TemporalModel.Cal.C16_identifier_lower_idem
#print axioms TemporalModel.Cal.C16_identifier_canonical
#print axioms TemporalModel.Cal.C16_identifier_roundtrip
#print axioms TemporalModel.Cal.C16_with_own_fields_identity
#print axioms TemporalModel.Cal.C16_year_month_first_of_month
#print axioms TemporalModel.Cal.C16_with_own_era_identity
#print axioms TemporalModel.Cal.C16_with_own_year_or_code_identity
#print axioms TemporalModel.C16_with_calendar_keeps_datetime
#print axioms TemporalModel.C16_with_calendar_keeps_instant
