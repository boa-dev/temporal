/-
  Props/C01.lean — property C01: ISO dates and the day timeline are a Gregorian bijection.  First the Gregorian day line
  itself (specification side, no window: all years), then the two coded kernels against it, then the derived calendar
  quantities, the oracle the ISO getters are compared with.  `InWin` (|year| ≤ 1.2·10^6) and `InDayWin` (|day| ≤ 4·10^8)
  strictly contain Temporal's range (years −271821 … 275760, days ±(10^8+1)).  The proofs do not use them: the model's
  kernels are integer functions, exact for all years.  That the coded `u32`/`u64` intermediates fit their types inside
  the windows is not proved here; the overflow-checked differential run covers it.
-/
import TemporalModel.Lemmas.GregorianLemmas
namespace TemporalModel
open NS Greg

/-- 1970-01-01 is day 0. -/
theorem C01_anchor : dayNumber 1970 1 1 = 0 ∧ epochDaysFromGregorianDate 1970 1 1 = 0 := ⟨dayNumber_anchor, by decide⟩

/-- Consecutive calendar days are exactly one day apart, for every year (month lengths and leap years by the
    proleptic Gregorian rule) — together with the anchor this makes `dayNumber` *the* timeline position. -/
theorem C01_succ (y m d : Int) (h : Valid y m d) :
    Valid (nextDay y m d).1 (nextDay y m d).2.1 (nextDay y m d).2.2 ∧
    dayNumber (nextDay y m d).1 (nextDay y m d).2.1 (nextDay y m d).2.2 = dayNumber y m d + 1 :=
  ⟨nextDay_valid y m d h, dayNumber_succ y m d h⟩

/-- A year has 365 or 366 days by the leap rule. -/
theorem C01_year_length (y : Int) : yearStart (y + 1) - yearStart y = diy y := by
  have := yearStart_succ y; omega

/-- Calendar order is timeline order, and the day number determines the date. -/
theorem C01_order (y1 m1 d1 y2 m2 d2 : Int) (h1 : Valid y1 m1 d1) (h2 : Valid y2 m2 d2) :
    (ymdLt (y1, m1, d1) (y2, m2, d2) ↔ dayNumber y1 m1 d1 < dayNumber y2 m2 d2) ∧
    (dayNumber y1 m1 d1 = dayNumber y2 m2 d2 → (y1, m1, d1) = (y2, m2, d2)) := by
  refine ⟨⟨dayNumber_lt_of_ymdLt _ _ _ _ _ _ h1 h2, fun hlt => ?_⟩, dayNumber_inj _ _ _ _ _ _ h1 h2⟩
  rcases ymd_trichotomy (y1, m1, d1) (y2, m2, d2) with h | h | h
  · exact h
  · cases h; omega
  · have := dayNumber_lt_of_ymdLt _ _ _ _ _ _ h2 h1 h; omega

/-- date → days (`epoch_days_from_gregorian_date`) computes the Gregorian day number. -/
theorem C01_toDays (y m d : Int) (hy : InWin y) (hm1 : 1 ≤ m) (hm12 : m ≤ 12) :
    epochDaysFromGregorianDate y m d = dayNumber y m d :=
  toDays_eq_dayNumber y m d hm1 hm12

/-- days → date (`ymd_from_epoch_days`) returns an existing calendar day with that day number. -/
theorem C01_fromDays (n : Int) (hn : InDayWin n) :
    ∃ y m d, ymdFromEpochDays n = (y, m, d) ∧ Valid y m d ∧ InWin y ∧ dayNumber y m d = n := by
  obtain ⟨y, m, d, he, hv, hd⟩ := fromDays_spec n
  refine ⟨y, m, d, he, hv, ?_, hd⟩
  have := dayNumber_mem_year y m d hv
  unfold InDayWin at hn
  unfold InWin
  unfold yearStart diy at this
  omega

/-- The two kernels are mutually inverse (bijection between valid dates and days of the window). -/
theorem C01_inverse (y m d : Int) (h : Valid y m d) (hy : InWin y)
    (hn : InDayWin (dayNumber y m d)) :
    ymdFromEpochDays (epochDaysFromGregorianDate y m d) = (y, m, d) :=
  fromDays_toDays y m d h

theorem C01_inverse' (n : Int) (hn : InDayWin n) :
    epochDaysFromGregorianDate (ymdFromEpochDays n).1 (ymdFromEpochDays n).2.1 (ymdFromEpochDays n).2.2 = n := by
  obtain ⟨y, m, d, he, hv, hd⟩ := fromDays_spec n
  rw [he, toDays_eq_dayNumber y m d hv.1 hv.2.1]; exact hd

/-- Temporal's limits are the days ±(10^8 + 1) and lie inside the windows. -/
theorem C01_limits :
    epochDaysFromGregorianDate (-271821) 4 19 = -100000001 ∧
    epochDaysFromGregorianDate 275760 9 14 = 100000001 ∧
    ymdFromEpochDays (-100000001) = (-271821, 4, 19) ∧ ymdFromEpochDays 100000001 = (275760, 9, 14) ∧
    InWin (-271821) ∧ InWin 275760 ∧ InDayWin (-100000001) ∧ InDayWin 100000001 := by
  simp only [InWin, InDayWin]; decide

/-- `IsoDate::balance` moves along the day line: balancing (y, m, d + k) yields the date k days later. -/
theorem C01_balance (y m d k : Int) (h : Valid y m d) (hy : InWin y)
    (hn : InDayWin (dayNumber y m d + k)) :
    ∃ y' m' d', isoDateBalance y m (d + k) = (y', m', d') ∧ Valid y' m' d' ∧
      dayNumber y' m' d' = dayNumber y m d + k := by
  rw [← dayNumber_add_day]; exact isoDateBalance_spec y m (d + k) h.1 h.2.1

/-- The leap-year chain used for month lengths (`iso_days_in_month` → `epoch_time_for_year` →
    `epoch_time_to_epoch_year` → `neri_schneider::year` → `mathematical_days_in_year`) gives the Gregorian
    month length for **every** year and never reaches its assertion. -/
theorem C01_days_in_month (y m : Int) (hm1 : 1 ≤ m) (hm12 : m ≤ 12) :
    isoDaysInMonth y m = .ok (dim y m) :=
  isoDaysInMonth_eq y m hm1 hm12

/-- Day of week advances cyclically along the day line; 1970-01-01 was a Thursday (4). -/
theorem C01_day_of_week (n : Int) :
    dayOfWeek 0 = 4 ∧ 1 ≤ dayOfWeek n ∧ dayOfWeek n ≤ 7 ∧ dayOfWeek (n + 1) = dayOfWeek n % 7 + 1 ∧
    dayOfWeek (n + 7) = dayOfWeek n := by
  unfold dayOfWeek; omega

/-- Day of year restarts at 1 on 1 January, counts up to the year's length, and is the timeline distance
    from the year's first day plus one. -/
theorem C01_day_of_year (y m d : Int) (h : Valid y m d) :
    dayOfYear y 1 1 = 1 ∧ 1 ≤ dayOfYear y m d ∧ dayOfYear y m d ≤ diy y ∧
    dayOfYear y m d = dayNumber y m d - dayNumber y 1 1 + 1 := by
  have hy := dayNumber_mem_year y m d h
  have hj := monthStart_jan y
  unfold dayNumber at hy
  unfold dayOfYear dayNumber
  omega

/-- ISO week numbering: the week's Thursday lies in the reported year-of-week and the week number is the
    1-based count of Thursdays of that year up to it. -/
theorem C01_week (y m d : Int) :
    let n := dayNumber y m d
    let th := n - dayOfWeek n + 4
    dayOfWeek th = 4 ∧ n - 3 ≤ th ∧ th ≤ n + 3 ∧
    (weekInfo y m d).1 = (th - yearStart (weekInfo y m d).2) / 7 + 1 := by
  unfold weekInfo dayOfWeek
  simp only
  refine ⟨by omega, by omega, by omega, trivial⟩

end TemporalModel

#print axioms TemporalModel.C01_day_of_week
#print axioms TemporalModel.C01_day_of_year
#print axioms TemporalModel.C01_week
#print axioms TemporalModel.C01_anchor
#print axioms TemporalModel.C01_succ
#print axioms TemporalModel.C01_year_length
#print axioms TemporalModel.C01_order
#print axioms TemporalModel.C01_toDays
#print axioms TemporalModel.C01_fromDays
#print axioms TemporalModel.C01_inverse
#print axioms TemporalModel.C01_inverse'
#print axioms TemporalModel.C01_limits
#print axioms TemporalModel.C01_balance
#print axioms TemporalModel.C01_days_in_month
