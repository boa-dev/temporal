/-
  Props/C09.lean — property C09: durations are a consistent signed quantity without a reference date.
-/
import TemporalModel.Lemmas.RoundLemmas
import TemporalModel.Spec.Options
import TemporalModel.Lemmas.SplitLemmas
namespace TemporalModel
open Dur

/-- **A duration exists iff** its fields share one sign, |years|,|months|,|weeks| < 2^32 and the exact total of the
    day and time fields (a day counting 24 h) is below 2^53 seconds. -/
theorem C09_valid_iff (d : Dur) : (Dur.new d = .ok d ↔ d.ValidSpec) ∧ (Dur.new d = .ok d ∨ Dur.new d = .err .range) := by
  refine ⟨(Dur.new_eq_ok.trans (and_iff_left rfl)).trans (Dur.isValid_iff d), ?_⟩
  unfold Dur.new
  split
  · exact .inl rfl
  · exact .inr rfl

/-- negated / abs / sign behave as on signed numbers. -/
theorem C09_negated (d : Dur) :
    d.negated.negated = d ∧ d.negated.sign = - d.sign ∧ d.negated.totalNs = - d.totalNs ∧
    (d.ValidSpec → d.negated.ValidSpec) := by
  refine ⟨Dur.negated_negated d, ?_, Dur.negated_totalNs d, ?_⟩
  · unfold sign; rw [Dur.negated_fields, Dur.signOf_neg]
  · rintro ⟨h1, h2, h3, h4, h5⟩
    have e : ∀ v : Int, (-v).natAbs < 4294967296 ↔ v.natAbs < 4294967296 := fun v => by rw [Int.natAbs_neg]
    refine ⟨?_, (e _).mpr h2, (e _).mpr h3, (e _).mpr h4, ?_⟩
    · unfold signUniform at *
      simp only [Dur.negated_fields, List.forall_mem_map, Int.neg_nonneg, Int.neg_nonpos_iff]
      exact h1.symm
    · rw [Dur.negated_totalNs]; omega

theorem C09_abs (d : Dur) (h : d.signUniform) :
    (∀ v ∈ d.abs.fields, 0 ≤ v) ∧ d.abs.totalNs = (d.totalNs.natAbs : Int) :=
  ⟨Dur.abs_nonneg d, Dur.abs_totalNs d h⟩

/-- **compare is the total order of the exact totals** (valid, calendar-free durations). -/
theorem C09_compare_total (a b : Dur) (ha : a.ValidSpec) (hb : b.ValidSpec) (ca : a.calendarFree) (cb : b.calendarFree) :
    a.compareNoRel b = .ok (cmpInt a.totalNs b.totalNs) := by
  obtain ⟨_, _, _, _, ta⟩ := ha
  obtain ⟨_, _, _, _, tb⟩ := hb
  have la := Dur.defaultLargestUnit_not_calendar a ca
  have lb := Dur.defaultLargestUnit_not_calendar b cb
  unfold compareNoRel
  by_cases hab : a = b
  · subst hab
    rw [if_pos rfl, cmpInt, if_neg (Int.lt_irrefl _), if_neg (Int.lt_irrefl _)]
  · simp only [hab, if_false, la, lb, Bool.false_eq_true, or_self, Dur.timeNs_add_days]
    rw [normChecked_of_le (by unfold MAX_TIME_DURATION; omega), normChecked_of_le (by unfold MAX_TIME_DURATION; omega)]
    simp only [Out.bind_ok, Out.pure_eq_ok, cmpInt]

/-- **round without relativeTo operates on the exact total** (a day counting 24 h): for a time smallest unit the
    rounded total is RoundNumberToIncrement of the exact total; out-of-range results are RangeErrors. -/
theorem C09_round_total_time (n : Int) (o : Resolved) (len : Nat) (hlen : o.smallest.asNanoseconds = some len)
    (ht : o.smallest.isTimeUnit = true) (hinc : 0 < o.increment) (hl : 0 < len) :
    normRound n 0 o =
      (if ((roundSpec n (len * o.increment) o.mode).natAbs : Int) > MAX_TIME_DURATION then .err .range
       else .ok (0, roundSpec n (len * o.increment) o.mode)) := by
  have hq : 0 < (len : Int) * o.increment := Int.mul_pos (by omega) hinc
  rw [normRound_time n 0 o len ht hlen, RoundI128.round_eq_spec _ _ _ hq, normChecked]
  split
  · rfl
  · simp only [Out.bind_ok, ne_eq, not_true_eq_false, false_and, if_false, Out.pure_eq_ok]

/-- For smallest unit day the result is the whole number of days of the rounded exact total. -/
theorem C09_round_total_day (n inc : Int) (mode : RMode) (hinc : 0 < inc) :
    normRound n 0 ⟨.day, .day, inc, mode⟩ = .ok (roundSpec n (inc * 86400000000000) mode / 86400000000000, 0) ∧
    roundSpec n (inc * 86400000000000) mode % 86400000000000 = 0 := by
  obtain ⟨k, h1, h2⟩ := tdiv_round_mul n inc 86400000000000 mode (by decide) hinc
  unfold normRound roundDaysExact
  simp only [Int.zero_mul, Int.zero_add, h2]
  rw [← RoundI128.round_eq_spec _ _ _ (Int.mul_pos hinc (by decide)), h1]
  exact ⟨by rw [Int.mul_ediv_cancel _ (by decide)], Int.mul_emod_left _ _⟩

/-- **round(−d) = −round(d) with the mode mirrored** (on the exact totals). -/
theorem C09_round_neg (n q : Int) (mode : RMode) (hq : 0 < q) :
    RoundI128.round (-n) q mode = - RoundI128.round n q mode.negate :=
  RoundI128.round_neg n q mode

/-- Every admissible (unit, increment) pair of a duration rounding divides a day, so a rounded duration still
    counts whole units. -/
theorem C09_increment_divides_day (u : TUnit) (inc : Int) (len : Nat) (h1 : 1 ≤ inc)
    (hlen : u.asNanoseconds = some len) (hu : u.isTimeUnit = true) (ha : incrementAllowed inc u = true) :
    86400000000000 % ((len : Int) * inc) = 0 := by
  have hmax : ∃ m, maxIncrementSpec u = some m ∧ (len : Int) * m ∣ 86400000000000 := by
    cases u <;> cases hu <;> cases hlen <;> exact ⟨_, rfl, by decide⟩
  obtain ⟨m, hm, hdvd⟩ := hmax
  unfold incrementAllowed at ha
  simp only [hm, Bool.and_eq_true, decide_eq_true_eq] at ha
  obtain ⟨_, hmod⟩ := ha
  have hi : inc ∣ m := Int.dvd_of_emod_eq_zero hmod
  have : (len : Int) * inc ∣ (len : Int) * m := Int.mul_dvd_mul_left _ hi
  exact Int.emod_eq_zero_of_dvd (Int.dvd_trans this hdvd)

/-- **add of calendar-free durations is the exact sum of the totals**, balanced to the larger of the operands'
    largest units (stated for a result largest unit of seconds or above, where every field is exact). -/
theorem C09_add_exact (a b : Dur) (L : TUnit) (k : Nat) (hL : a.defaultLargestUnit.max b.defaultLargestUnit = L)
    (hcal : L.isCalendarUnit = false) (hk : balanceDepth L = some k) (h3 : 3 ≤ k)
    (hdays : ((a.days + b.days).natAbs : Int) ≤ 9007199254740992)
    (hsum : ((a.timeNs + b.timeNs).natAbs : Int) ≤ MAX_TIME_DURATION)
    (htot : ((a.totalNs + b.totalNs).natAbs : Int) ≤ MAX_TIME_DURATION) :
    ∃ c, a.add b = .ok c ∧ c.totalNs = a.totalNs + b.totalNs ∧ c.ValidSpec := by
  have e : a.timeNs + b.timeNs + (a.days + b.days) * 86400000000000 = a.totalNs + b.totalNs := by
    unfold totalNs; omega
  unfold Dur.add
  simp only [hL, hcal, Bool.false_eq_true, if_false, normChecked_of_le hsum, Out.bind_ok, F64.ofInt_small _ hdays,
    F64.toI64Sat_small _ hdays, e, normChecked_of_le htot]
  obtain ⟨r, h1, h2, h3', _⟩ := timeFromNormalized_exact (a.totalNs + b.totalNs) L k hk h3 htot
  exact ⟨r, h1, h2, h3'⟩

theorem C09_add_comm (a b : Dur) : a.add b = b.add a := by
  unfold Dur.add
  rw [TUnit.max_comm a.defaultLargestUnit, Int.add_comm a.timeNs, Int.add_comm a.days]

/-- **total(unit) is the exact total divided by the unit length**: the integer part and the remainder are exact,
    and whenever the unit divides the total (and the quotient is a safe integer) the result is that integer. -/
theorem C09_total_exact (ns : Int) (unit : Nat) (hu : 0 < unit) :
    (ns / (unit : Int)) * unit + ns % (unit : Int) = ns ∧ 0 ≤ ns % (unit : Int) ∧ ns % (unit : Int) < unit := by
  have h1 := Int.emod_nonneg ns (by omega : (unit : Int) ≠ 0)
  have h2 := Int.emod_lt_of_pos ns (by omega : (0 : Int) < unit)
  have h3 := Int.ediv_mul_add_emod ns (unit : Int)
  exact ⟨h3, h1, h2⟩

/-- **The "nothing to do" shortcut of `Duration::round` is only a shortcut.** Whenever its condition holds - rounding
to nanoseconds with increment 1, the largest unit the duration already has, no calendar units, and every field below
that unit already balanced (|hours| < 24, |minutes|, |seconds| < 60, sub-second fields < 1000) - the general path
(exact total, rounded, re-balanced) returns the very same duration: the thresholds of the condition are exactly those
under which re-balancing changes nothing (P1DT24H is re-balanced to P2D, which is why `|hours| < 24` is strict).
For fields a double holds exactly. -/
theorem C09_noop_shortcut_sound (d : Dur) (o : Resolved) (hv : d.isValid = true)
    (hs : ∀ f ∈ d.fields, (f.natAbs : Int) ≤ 9007199254740992) (hnoop : d.roundIsNoop o) :
    d.roundNoRelSlow o = .ok d := by
  obtain ⟨⟨hsm, hinc⟩, hL, hcal, hh, hmi, hse, hms, hus, hns⟩ := hnoop
  have hcal' : d.calendarFree := by
    simp only [Bool.not_not, Bool.and_eq_true, decide_eq_true_eq] at hcal
    exact ⟨hcal.1.1, hcal.1.2, hcal.2⟩
  have hh' : (d.hours.natAbs : Int) < 24 := by
    simp only [Bool.not_eq_true', decide_eq_false_iff_not, ge_iff_le, Nat.not_le] at hh; omega
  have hLcal := Dur.defaultLargestUnit_not_calendar d hcal'
  have htot : (d.totalNs.natAbs : Int) ≤ MAX_TIME_DURATION := by
    have := ((Dur.isValid_iff d).mp hv).2.2.2.2; unfold MAX_TIME_DURATION; omega
  have hn : d.timeNs + F64.toI64Sat d.days * 86400000000000 = d.totalNs := by
    rw [F64.toI64Sat_small _ ((Dur.forall_mem_fields d _).mp hs).2.2.2.1]; unfold Dur.totalNs; omega
  have hnr : normRound d.totalNs 0 o = .ok (0, d.totalNs) := by
    have hr : RoundI128.round d.totalNs (((1 : Nat) : Int) * 1) o.mode = d.totalNs := RoundI128.round_one _ o.mode
    rw [normRound_time _ _ o 1 (by rw [hsm]; rfl) (by rw [hsm]; rfl), hinc, hr, normChecked_of_le htot]
    simp only [Out.bind_ok, ne_eq, not_true_eq_false, false_and, if_false, Out.pure_eq_ok]
  unfold Dur.roundNoRelSlow
  simp only [hcal'.1, hcal'.2.1, hcal'.2.2, hL, hLcal, hsm, hn, hnr, Dur.new_days 0 (by decide),
    F64.toI64Sat_small 0 (by decide), normChecked_of_le htot, Out.bind_ok,
    Int.zero_mul, Int.add_zero, decide_true, Bool.and_self, Bool.not_true, Bool.false_eq_true, or_self, if_false,
    show TUnit.nanosecond.isCalendarUnit = false from rfl]
  exact timeFromNormalized_balanced d hv hcal' ⟨hh', by omega, by omega, by omega, by omega, by omega⟩ hs

/-- The shortcut condition is tight: with an hours field of exactly 24 the general path re-balances. -/
example : Dur.roundNoRelSlow ⟨0, 0, 0, 1, 24, 0, 0, 0, 0, 0⟩ ⟨.day, .nanosecond, 1, .halfExpand⟩ =
    .ok ⟨0, 0, 0, 2, 0, 0, 0, 0, 0, 0⟩ := by decide +kernel

/-! Witnesses (kernel-decided): the bounds of `Dur.new`, 2^32 for years and 2^53 seconds for the total, are exact. -/
example : (Dur.new ⟨4294967295, 0, 0, 0, 0, 0, 0, 0, 0, 0⟩).isOk = true := by decide
example : (Dur.new ⟨4294967296, 0, 0, 0, 0, 0, 0, 0, 0, 0⟩).isOk = false := by decide
example : (Dur.new ⟨0, 0, 0, 0, 0, 0, 9007199254740991, 999, 999, 2000⟩).isOk = false := by decide
example : (Dur.new ⟨0, 0, 0, 0, 0, 0, 9007199254740991, 999, 999, 999⟩).isOk = true := by decide

end TemporalModel

#print axioms TemporalModel.C09_valid_iff
#print axioms TemporalModel.C09_negated
#print axioms TemporalModel.C09_abs
#print axioms TemporalModel.C09_compare_total
#print axioms TemporalModel.C09_round_total_time
#print axioms TemporalModel.C09_round_total_day
#print axioms TemporalModel.C09_round_neg
#print axioms TemporalModel.C09_increment_divides_day
#print axioms TemporalModel.C09_add_exact
#print axioms TemporalModel.C09_add_comm
#print axioms TemporalModel.C09_total_exact
#print axioms TemporalModel.C09_noop_shortcut_sound
