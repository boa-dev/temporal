/-
  Lemmas/OptionLemmas.lean — the option resolvers of Model/Options.lean against the tables of
  Spec/Options.lean. Each check of the code is restated as a guard `if c then .ok () else .err .range`
  on the table's own predicate; `Out.ite_bind`, `apply_ite ofOption`, `ite_bnot` and `ite_band` then turn a chain of
  such checks, and `ofOption` of a chain of `if … then none else …`, into the same nested `if`.
-/
import TemporalModel.Spec.Options
import TemporalModel.Lemmas.PrimLemmas
namespace TemporalModel
open Out

theorem UnitGroup.validateUnit_extra_auto (g : UnitGroup) (U : Option TUnit) :
    g.validateUnit U (some .auto) = if unitAllowed g true U then .ok () else .err .range := by
  cases U with
  | none => cases g <;> rfl
  | some u => cases g <;> cases u <;> rfl
theorem UnitGroup.validateUnit_extra_none (g : UnitGroup) (U : Option TUnit) :
    g.validateUnit U none = if unitAllowed g false U then .ok () else .err .range := by
  cases U with
  | none => cases g <;> rfl
  | some u => cases g <;> cases u <;> rfl
theorem unitAllowed_dateTime (a : Bool) (U : Option TUnit) :
    unitAllowed .dateTime a U = (a || decide (U ≠ some .auto)) := by
  cases U with
  | none => cases a <;> rfl
  | some u => cases a <;> cases u <;> rfl
theorem unwrapUnitOr_eq (L : Option TUnit) (d : TUnit) : unwrapUnitOr L d = largestOrDefault L d := by
  cases L with
  | none => rfl
  | some u => cases u <;> rfl

theorem TUnit.maxRoundingIncrement_eq (s : TUnit) : s.maxRoundingIncrement = .ok (maxIncrementSpec s) := by
  cases s <;> rfl

/- The right-hand sides have the shape of their users: the Bool guard of `incrementAllowed`, the Prop guard of
`instantRoundSpec`.  In both the code asks `i > max` where the table asks `i < m` resp. `i ≤ m`. -/
theorem incrementValidate_excl (i m : Int) :
    incrementValidate i m false = if decide (i < m) && decide (m % i = 0) then .ok () else .err .range := by
  simp only [incrementValidate, Bool.false_eq_true, if_false, Bool.and_eq_true, decide_eq_true_eq, ne_eq, ite_not]
  by_cases h : i < m
  · simp only [h, true_and, if_neg (show ¬ i > m - 1 by omega)]
  · simp only [h, false_and, if_false, if_pos (show i > m - 1 by omega)]

theorem incrementValidate_incl (i m : Int) :
    incrementValidate i m true = if i ≤ m ∧ m % i = 0 then .ok () else .err .range := by
  simp only [incrementValidate, if_true, Int.sub_zero, ne_eq, ite_not]
  by_cases h : i ≤ m
  · simp only [h, true_and, if_neg (Int.not_lt.mpr h)]
  · simp only [h, false_and, if_false, if_pos (Int.not_le.mp h)]

/-- Only here does the lower bound of `RoundingIncrement` matter: `-1` also divides 1. -/
theorem incrementValidate_one (i : Int) (h : 1 ≤ i) :
    incrementValidate i 1 true = if i = 1 then .ok () else .err .range := by
  rw [incrementValidate_incl]
  by_cases h1 : i = 1
  · subst h1; rfl
  · rw [if_neg h1, if_neg (by omega)]

theorem checkIncrement_eq (s : TUnit) (i : Int) :
    checkIncrement s i = if incrementAllowed i s then .ok () else .err .range := by
  unfold checkIncrement incrementAllowed
  rw [TUnit.maxRoundingIncrement_eq]
  cases maxIncrementSpec s with
  | none => rfl
  | some m => exact incrementValidate_excl i m

theorem incrementAllowed_one (u : TUnit) : incrementAllowed 1 u = true := by
  cases u <;> rfl

theorem ofOption_some {α} (a : α) : ofOption (some a) = .ok a := rfl
theorem ofOption_none {α} : (ofOption none : Out α) = .err .range := rfl
theorem ite_bnot {α} (b : Bool) (x y : α) : (if !b then x else y) = if b then y else x := by
  cases b <;> rfl
theorem ite_band {α} (a b : Bool) (x y : α) :
    (if a && b then x else y) = if a then (if b then x else y) else y := by
  cases a <;> rfl

/-- `from_diff_settings` is its table on every raw record; no bound on the increment is needed. -/
theorem fromDiffSettings_eq (o : RawOptions) (since : Bool) (g : UnitGroup) (fl fs : TUnit) :
    fromDiffSettings o since g fl fs =
      ofOption (diffSettingsSpec g fl fs since o.largest o.smallest o.increment o.mode) := by
  unfold fromDiffSettings diffSettingsSpec
  simp only [UnitGroup.validateUnit_extra_auto, UnitGroup.validateUnit_extra_none, checkIncrement_eq, unwrapUnitOr_eq,
    TUnit.max_comm (o.smallest.getD fs) fl, Out.ite_bind, Out.bind_ok, Out.bind_err, Out.pure_eq_ok,
    apply_ite ofOption, ofOption_some, ofOption_none, ite_bnot, ite_band]

theorem diffSettingsSpec_since (g : UnitGroup) (fl fs : TUnit) (L S : Option TUnit) (inc : Option Int)
    (mode : Option RMode) :
    diffSettingsSpec g fl fs true L S inc mode =
      (diffSettingsSpec g fl fs false L S inc mode).map fun o => { o with mode := o.mode.negate } := by
  unfold diffSettingsSpec
  simp only [apply_ite (Option.map fun o : Resolved => { o with mode := o.mode.negate }), Option.map_none, Option.map_some]
  rfl

theorem fromDurationOptions_eq (o : RawOptions) (existing : TUnit) :
    fromDurationOptions o existing =
      ofOption (durationRoundSpec existing o.largest o.smallest o.increment o.mode) := by
  unfold fromDurationOptions durationRoundSpec
  simp only [UnitGroup.validateUnit_extra_auto, UnitGroup.validateUnit_extra_none, checkIncrement_eq, unwrapUnitOr_eq, unitAllowed_dateTime,
    Bool.true_or, Bool.false_or, decide_eq_true_eq, ite_not, if_true,
    Out.ite_bind, Out.bind_ok, Out.bind_err, Out.pure_eq_ok,
    apply_ite ofOption, ofOption_some, ofOption_none, ite_bnot]

/-- With a smallest unit, `from_datetime_options` is one increment check: against 1 for `day`,
the difference resolvers' `checkIncrement` for a time unit (the table of maxima has an entry for each). -/
theorem fromDatetimeOptions_some (L : Option TUnit) (s : TUnit) (inc : Option Int) (mode : Option RMode) :
    fromDatetimeOptions ⟨L, some s, inc, mode⟩ =
      (if s = .day then incrementValidate (inc.getD 1) 1 true
       else if s.isTimeUnit then checkIncrement s (inc.getD 1) else .err .range) >>= fun _ =>
        .ok ⟨.auto, s, inc.getD 1, mode.getD .halfExpand⟩ := by
  cases s <;> rfl

/-- The maxima of `from_instant_options` are the day lengths; a unit that is no time unit has none,
so the unit check adds nothing. -/
theorem fromInstantOptions_some (L : Option TUnit) (s : TUnit) (inc : Option Int) (mode : Option RMode) :
    fromInstantOptions ⟨L, some s, inc, mode⟩ =
      ofOption (dayLengthIn s) >>= fun d => incrementValidate (inc.getD 1) d true >>= fun _ =>
        .ok ⟨.auto, s, inc.getD 1, mode.getD .halfExpand⟩ := by
  cases s <;> rfl

/-- No unit group admits `auto` as smallest unit. -/
theorem UnitGroup.validateUnit_getD_ne_auto {g : UnitGroup} {S : Option TUnit} {fb : TUnit} (hfb : fb ≠ .auto)
    (h : g.validateUnit S none = .ok ()) : S.getD fb ≠ .auto := by
  rcases S with _ | u
  · exact hfb
  · rintro rfl; cases g <;> cases h

/- Both resolvers check the smallest unit against its group and refuse `largest < smallest`; that the largest unit
is not `auto` either follows from the order alone. -/
theorem fromDiffSettings_ok {raw : RawOptions} {since : Bool} {g : UnitGroup} {fl fs : TUnit} {o : Resolved}
    (h : fromDiffSettings raw since g fl fs = .ok o) (hfs : fs ≠ .auto) :
    o.largest ≠ .auto ∧ o.smallest ≠ .auto ∧ ¬ o.largest < o.smallest := by
  simp only [fromDiffSettings, bind_eq_ok, err_ite_eq_ok, pure_eq_ok, ok.injEq] at h
  obtain ⟨_, -, _, h2, hlt, _, -, rfl⟩ := h
  have hs := UnitGroup.validateUnit_getD_ne_auto hfs h2
  exact ⟨TUnit.ne_auto_of_not_lt hs hlt, hs, hlt⟩

theorem fromDurationOptions_ok {raw : RawOptions} {e : TUnit} {o : Resolved} (h : fromDurationOptions raw e = .ok o) :
    o.largest ≠ .auto ∧ o.smallest ≠ .auto ∧ ¬ o.largest < o.smallest := by
  simp only [fromDurationOptions, bind_eq_ok, err_ite_eq_ok, pure_eq_ok, ok.injEq] at h
  obtain ⟨-, _, -, _, h2, hlt, _, -, rfl⟩ := h
  have hs := UnitGroup.validateUnit_getD_ne_auto (fb := .nanosecond) (by decide) h2
  exact ⟨TUnit.ne_auto_of_not_lt hs hlt, hs, hlt⟩

theorem fromDiffSettings_time_asNanoseconds {raw : RawOptions} {since : Bool} {fl fs : TUnit} {o : Resolved}
    (h : fromDiffSettings raw since .time fl fs = .ok o) (hfs : fs.isTimeUnit = true) : o.smallest.asNanoseconds.isSome := by
  simp only [fromDiffSettings, bind_eq_ok, err_ite_eq_ok, pure_eq_ok, ok.injEq] at h
  obtain ⟨_, -, ⟨⟩, h2, -, _, -, rfl⟩ := h
  show (raw.smallest.getD fs).asNanoseconds.isSome
  cases hS : raw.smallest with
  | none => revert hfs; cases fs <;> decide
  | some u =>
    rw [hS] at h2
    show u.asNanoseconds.isSome
    revert h2; cases u <;> decide

end TemporalModel
