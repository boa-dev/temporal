/-
  Lemmas/TimeLemmas.lean — times of day (`IsoTime`, Model/TimeOps.lean) as nanoseconds since midnight (`toNs`):
  balancing and adding are exact arithmetic on that number, with the whole days carried out.  The operations of
  Model/TimeOps.lean on times and on instants return valid times and instants inside the range.
-/
import TemporalModel.Model.TimeOps
import TemporalModel.Lemmas.PrimLemmas
namespace TemporalModel

theorem IsoTime.isValid_iff (t : IsoTime) : t.isValid = true ↔
    (0 ≤ t.hour ∧ t.hour ≤ 23 ∧ 0 ≤ t.minute ∧ t.minute ≤ 59 ∧ 0 ≤ t.second ∧ t.second ≤ 59 ∧
     0 ≤ t.millisecond ∧ t.millisecond ≤ 999 ∧ 0 ≤ t.microsecond ∧ t.microsecond ≤ 999 ∧
     0 ≤ t.nanosecond ∧ t.nanosecond ≤ 999) := by
  unfold IsoTime.isValid
  simp only [Bool.and_eq_true, decide_eq_true_eq]
  omega

theorem IsoTime.balance_exact (h mi s ms us ns : Int) :
    (IsoTime.balance h mi s ms us ns).1 * 86400000000000 + (IsoTime.balance h mi s ms us ns).2.toNs =
      ((((h * 60 + mi) * 60 + s) * 1000 + ms) * 1000 + us) * 1000 + ns ∧
    (IsoTime.balance h mi s ms us ns).2.isValid = true := by
  rw [IsoTime.isValid_iff]
  simp only [IsoTime.balance, IsoTime.toNs]
  omega

theorem timeAddNorm_exact (t : IsoTime) (n : Int) :
    (timeAddNorm t n).1 * 86400000000000 + (timeAddNorm t n).2.toNs = t.toNs + n ∧
    (timeAddNorm t n).2.isValid = true := by
  have hq := Int.mul_tdiv_add_tmod n 1000000000
  have hb := IsoTime.balance_exact t.hour t.minute (t.second + Int.tdiv n 1000000000) t.millisecond t.microsecond
    (t.nanosecond + Int.tmod n 1000000000)
  unfold timeAddNorm
  refine ⟨?_, hb.2⟩
  rw [hb.1]
  unfold IsoTime.toNs
  omega

theorem timeDiffNs_eq (a b : IsoTime) : timeDiffNs a b = b.toNs - a.toNs := by
  unfold timeDiffNs IsoTime.toNs; omega

theorem IsoTime.toNs_range (t : IsoTime) (h : t.isValid = true) : 0 ≤ t.toNs ∧ t.toNs < 86400000000000 := by
  rw [IsoTime.isValid_iff] at h
  unfold IsoTime.toNs
  omega

@[ensures] theorem IsoTime.round_valid {t : IsoTime} {r : Resolved} : (t.round r).Ensures (·.2.isValid = true) := by
  intro _ h
  unfold IsoTime.round at h
  split at h
  · dsimp only at h
    split at h <;> cases h
    -- `.day` returns `midnight`; every other unit goes through `balance`
    · rfl
    all_goals exact (IsoTime.balance_exact ..).2
  · cases h

theorem plainTimeTryNew_valid {h mi s ms us ns : Int} : (plainTimeTryNew h mi s ms us ns).Ensures (·.isValid = true) := by
  simp only [plainTimeTryNew, ensures]

theorem plainTimeAdd_valid {t : IsoTime} {du : Dur} : (plainTimeAdd t du).Ensures (·.isValid = true) := by
  simp only [plainTimeAdd, ensures]
  exact fun _ => (timeAddNorm_exact t du.timeNs).2

theorem plainTimeRound_valid {t : IsoTime} {u : TUnit} {inc : Int} {mode : Option RMode} :
    (plainTimeRound t u inc mode).Ensures (·.isValid = true) := by
  simp only [plainTimeRound, ensures]

@[ensures] theorem instantTryNew_bound {x : Int} :
    (instantTryNew x).Ensures fun r => (r.natAbs : Int) ≤ nsMaxInstant := by
  simp only [instantTryNew, ensures]
  unfold nsMaxInstant
  omega

theorem instantAdd_bound {i : Int} {du : Dur} :
    (instantAdd i du).Ensures fun r => (r.natAbs : Int) ≤ nsMaxInstant := by
  simp only [instantAdd, ensures]

theorem instantSubtract_bound {i : Int} {du : Dur} :
    (instantSubtract i du).Ensures fun r => (r.natAbs : Int) ≤ nsMaxInstant := by
  simp only [instantSubtract, ensures]

theorem instantRound_bound {i : Int} {raw : RawOptions} :
    (instantRound i raw).Ensures fun r => (r.natAbs : Int) ≤ nsMaxInstant := by
  simp only [instantRound, ensures]

end TemporalModel
