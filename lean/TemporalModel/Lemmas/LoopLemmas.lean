/-
  Lemmas/LoopLemmas.lean — the two search loops of `diff_iso_date` terminate for every pair of dates with months in
  1..12 (in the model the loops carry fuel 8 / 16 and report fuel exhaustion as a panic; `yearLoop_some` and
  `monthLoop_some` say, for any fuel, from how far short of `other` a loop still returns, and the model's start lies
  within that for fuel 8 / 16), what they return is small, and with that the inverse law
  `start.add(start.until(end, U)) = end` (`diff_add_inverse`).

  Both loops are measured by one quantity, `monthsPast`: the month count `12·year + month` of the candidate taken
  relative to `other` in direction `sign`.  `surpasses` holds once it reaches 1 and fails below 0
  (`surpasses_months`); a year step adds 12 to it, a month step 1.
-/
import TemporalModel.Lemmas.DateLemmas
import TemporalModel.Lemmas.DurationLemmas
namespace TemporalModel
open NS Greg

/-- For a unit `sign`, `surpasses` is the strict lexicographic order on (year, month, day) read in direction `sign`. -/
theorem surpasses_iff (a b : IsoDate) (sign : Int) (hs : sign = 1 ∨ sign = -1) :
    isoDateSurpasses a b sign = true ↔
      0 < sign * (a.year - b.year) ∨ a.year = b.year ∧
        (0 < sign * (a.month - b.month) ∨ a.month = b.month ∧ 0 < sign * (a.day - b.day)) := by
  unfold isoDateSurpasses IsoDate.cmp
  rcases hs with rfl | rfl <;> simp only [decide_eq_true_eq] <;> omega

/-- How many months the month `(y, m)` lies past `other`'s, counted in direction `sign`. -/
def monthsPast (other : IsoDate) (sign y m : Int) : Int := sign * (12 * y + m - (12 * other.year + other.month))

theorem monthsPast_year_step (other : IsoDate) {sign : Int} (hs : sign = 1 ∨ sign = -1) (y m : Int) :
    monthsPast other sign (y + sign) m = monthsPast other sign y m + 12 := by
  unfold monthsPast; rcases hs with rfl | rfl <;> omega

theorem monthsPast_month_step (other : IsoDate) {sign : Int} (hs : sign = 1 ∨ sign = -1) (y m : Int) :
    monthsPast other sign (balanceIsoYearMonth y (m + sign)).1 (balanceIsoYearMonth y (m + sign)).2 =
      monthsPast other sign y m + 1 := by
  have := (balanceIsoYearMonth_monthCount y (m + sign)).1
  unfold monthsPast; rcases hs with rfl | rfl <;> omega

/-- With months in 1..12, the month count decides `surpasses` up to the day of the month. -/
theorem surpasses_months (y m d : Int) (other : IsoDate) (sign : Int) (hs : sign = 1 ∨ sign = -1)
    (hm : 1 ≤ m ∧ m ≤ 12) (ho : MonthOk other) :
    (1 ≤ monthsPast other sign y m → isoDateSurpasses ⟨y, m, d⟩ other sign = true) ∧
    (isoDateSurpasses ⟨y, m, d⟩ other sign = true → 0 ≤ monthsPast other sign y m) := by
  rw [surpasses_iff _ _ _ hs]; dsimp only
  unfold MonthOk at ho
  unfold monthsPast
  rcases hs with rfl | rfl <;> omega

/-- What a loop returns is the initial count (the first candidate already surpasses) or a candidate it tried, and
    candidates move by `sign` per step: fewer than `fuel` steps from the first. -/
theorem yearLoop_bound (self other : IsoDate) (sign : Int) (hs : sign = 1 ∨ sign = -1) :
    ∀ (fuel : Nat) (years cand r : Int), yearLoop self other sign fuel years cand = some r →
      r = years ∨ ((r - cand).natAbs : Int) < fuel := by
  intro fuel
  induction fuel with
  | zero => intro years cand r h; cases h
  | succ n ih =>
    intro years cand r h
    unfold yearLoop at h
    split at h
    · left; cases h; rfl
    · rcases ih cand (cand + sign) r h with h1 | h1
      · right; subst h1; omega
      · right; rcases hs with rfl | rfl <;> omega

theorem monthLoop_bound (self other : IsoDate) (sign : Int) (hs : sign = 1 ∨ sign = -1) :
    ∀ (fuel : Nat) (months cand r : Int) (inter : Int × Int),
      monthLoop self other sign fuel months cand inter = some r →
      r = months ∨ ((r - cand).natAbs : Int) < fuel := by
  intro fuel
  induction fuel with
  | zero => intro months cand r inter h; cases h
  | succ n ih =>
    intro months cand r inter h
    unfold monthLoop at h
    split at h
    · left; cases h; rfl
    · rcases ih cand (cand + sign) r _ h with h1 | h1
      · right; subst h1; omega
      · right; rcases hs with rfl | rfl <;> omega

/-- The year loop returns, and its result lies at most 12 months short of `other` (so does the initial `years`, if
    the first candidate can surpass at all). -/
theorem yearLoop_some (self other : IsoDate) (sign : Int) (hs : sign = 1 ∨ sign = -1)
    (hsm : MonthOk self) (hom : MonthOk other) :
    ∀ (fuel : Nat) (years cand : Int), 0 < fuel →
      13 - monthsPast other sign (self.year + cand) self.month ≤ 12 * fuel →
      (0 ≤ monthsPast other sign (self.year + cand) self.month →
        -12 ≤ monthsPast other sign (self.year + years) self.month) →
      ∃ r, yearLoop self other sign fuel years cand = some r ∧
        -12 ≤ monthsPast other sign (self.year + r) self.month := by
  intro fuel
  induction fuel with
  | zero => intro _ _ h; omega
  | succ n ih =>
    intro years cand _ hv hy
    have hP := surpasses_months (self.year + cand) self.month self.day other sign hs hsm hom
    unfold yearLoop
    split
    next hsur => exact ⟨years, rfl, hy (hP.2 hsur)⟩
    next hsur =>
      have hn : ¬ 1 ≤ monthsPast other sign (self.year + cand) self.month := fun h => hsur (hP.1 h)
      have step := monthsPast_year_step other hs (self.year + cand) self.month
      rw [Int.add_assoc] at step
      apply ih <;> omega

/-- The month loop returns once fewer than `fuel` months separate `inter` from the month after `other`'s. -/
theorem monthLoop_some (self other : IsoDate) (sign : Int) (hs : sign = 1 ∨ sign = -1)
    (hom : MonthOk other) :
    ∀ (fuel : Nat) (months cand : Int) (inter : Int × Int), 0 < fuel → 1 ≤ inter.2 ∧ inter.2 ≤ 12 →
      1 - monthsPast other sign inter.1 inter.2 < fuel →
      ∃ r, monthLoop self other sign fuel months cand inter = some r := by
  intro fuel
  induction fuel with
  | zero => intro _ _ _ h; omega
  | succ n ih =>
    intro months cand inter _ hm hv
    unfold monthLoop
    split
    next => exact ⟨months, rfl⟩
    next hsur =>
      have hn : ¬ 1 ≤ monthsPast other sign inter.1 inter.2 :=
        fun h => hsur ((surpasses_months _ _ self.day other sign hs hm hom).1 h)
      have step := monthsPast_month_step other hs inter.1 inter.2
      apply ih _ _ _ _ (balanceIsoYearMonth_monthCount inter.1 (inter.2 + sign)).2 <;> omega

/-- **Termination of `diff_iso_date`.**  For two dates with months in 1..12 the year and month searches find their
    answer within the model's fuel: the outcome is never the fuel-exhaustion panic. -/
theorem IsoDate.diffIsoDate_loops_terminate (self other : IsoDate) (hsm : MonthOk self) (hom : MonthOk other)
    (hne : self.cmp other ≠ 0) :
    ∃ years months,
      yearLoop self other (-(self.cmp other)) 8 0
        (if other.year - self.year ≠ 0 then other.year - self.year - -(self.cmp other) else other.year - self.year)
        = some years ∧
      monthLoop self other (-(self.cmp other)) 16 0 (-(self.cmp other))
        (balanceIsoYearMonth (self.year + years) (self.month + -(self.cmp other))) = some months := by
  have hs : -(self.cmp other) = 1 ∨ -(self.cmp other) = -1 := by
    rcases self.cmp_cases other with h | h | h <;> omega
  generalize -(self.cmp other) = sign at hs ⊢
  unfold MonthOk at hsm hom
  -- the first candidate is `other`'s year less one step, or `self`'s own year when the years agree
  obtain ⟨years, hy, hr⟩ := yearLoop_some self other sign hs hsm hom 8 0
    (if other.year - self.year ≠ 0 then other.year - self.year - sign else other.year - self.year) (by decide)
    (by unfold monthsPast; split <;> rcases hs with rfl | rfl <;> omega)
    (by unfold monthsPast; split <;> rcases hs with rfl | rfl <;> omega)
  have step := monthsPast_month_step other hs (self.year + years) self.month
  obtain ⟨months, hm⟩ := monthLoop_some self other sign hs hom 16 0 sign _ (by decide)
    (balanceIsoYearMonth_monthCount (self.year + years) (self.month + sign)).2 (by omega)
  exact ⟨years, months, hy, hm⟩

/-- **The inverse law** `start.add(start.until(end, U)) = end` at the ISO level, for every largest unit: whenever
    `diff_iso_date` returns a duration, `add_date_duration` maps the receiver exactly onto the other date. -/
theorem diff_add_inverse (a b : IsoDate) (U : TUnit) (D : Dur) (ha : InRange a) (hb : InRange b)
    (h : a.diffIsoDate b U = .ok D) :
    a.addDateDuration D.years D.months D.weeks D.days .constrain = .ok b := by
  unfold IsoDate.diffIsoDate at h
  simp only at h
  split at h
  · cases h
    rw [← a.eq_of_cmp_eq_zero b (by omega)]; exact IsoDate.addDateDuration_zero a ha
  have hsgn : -(a.cmp b) = 1 ∨ -(a.cmp b) = -1 := by have := a.cmp_cases b; omega
  generalize -(a.cmp b) = sign at *
  have hay := ha.year
  have hby := hb.year
  -- whatever (small) years and months the searches report, the tail of `diff_iso_date` measures the remaining days
  -- from the constrained intermediate date, which is what `IsoDate.addDateDuration_of_days_from_intermediate` asks
  -- for.  It wants `i32`-sized fields: 600000 exceeds the year span of the range (547581) plus the year loop's fuel,
  -- 8000000 twelve times that plus the month loop's fuel
  have key : ∀ years months : Int, (years.natAbs : Int) < 600000 → (months.natAbs : Int) < 8000000 →
      (do let inter := balanceIsoYearMonth (a.year + years) (a.month + months)
          let constrained ← IsoDate.newWithOverflow inter.1 inter.2 a.day .constrain
          let days := b.toEpochDays - constrained.toEpochDays
          let (weeks, days) := if U = .week then (Int.tdiv days 7, Int.tmod days 7) else (0, days)
          Dur.new ⟨years, months, weeks, days, 0, 0, 0, 0, 0, 0⟩ : Out Dur) = .ok D →
      a.addDateDuration D.years D.months D.weeks D.days .constrain = .ok b := by
    intro years months hy hmo hD
    simp only [Out.bind_eq_ok] at hD
    obtain ⟨c, hc, hD⟩ := hD
    have hcr := IsoDate.newWithOverflow_inRange c hc
    have hn : ((b.toEpochDays - c.toEpochDays).natAbs : Int) < 2147483648 := by
      rw [hb.toEpochDays, hcr.toEpochDays]; have := hcr.2; have := hb.2; omega
    obtain ⟨w, d, hwd, hsum, hw, hd⟩ := weeksDays_spec (b.toEpochDays - c.toEpochDays) (U = .week) hn
    simp only [hwd] at hD
    obtain ⟨-, rfl⟩ := Dur.new_eq_ok.mp hD
    exact IsoDate.addDateDuration_of_days_from_intermediate a b years months c ha hb (by omega) (by omega) hc w d hsum hw hd
  by_cases hU : U = .year ∨ U = .month
  · rw [if_pos hU] at h
    cases hyl : yearLoop a b sign 8 0 (if b.year - a.year ≠ 0 then b.year - a.year - sign else b.year - a.year) with
    | none => simp only [hyl] at h; cases h
    | some years =>
      simp only [hyl] at h
      have hyears : (years.natAbs : Int) < 600000 := by
        have := yearLoop_bound a b sign hsgn 8 0 _ years hyl; split at this <;> omega
      cases hml : monthLoop a b sign 16 0 sign (balanceIsoYearMonth (a.year + years) (a.month + sign)) with
      | none => simp only [hml] at h; cases h
      | some months =>
        simp only [hml] at h
        have hmonths : (months.natAbs : Int) < 20 := by
          have := monthLoop_bound a b sign hsgn 16 0 sign months _ hml; omega
        by_cases hmon : U = .month
        · rw [if_pos hmon] at h; exact key 0 (months + years * 12) (by decide) (by omega) h
        · rw [if_neg hmon] at h; exact key years months hyears (by omega) h
  · rw [if_neg hU] at h; exact key 0 0 (by decide) (by decide) h

end TemporalModel
