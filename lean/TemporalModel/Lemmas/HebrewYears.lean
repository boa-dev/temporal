/-
  Lemmas/HebrewYears.lean — which Hebrew years of Temporal's range have their molad of Tishrei exactly at Saturday
  18 h 0 p (where the library's new year is a week early): 765433 (ḥalakim per lunation) is invertible modulo 181440
  (ḥalakim per week), so the number of lunations is fixed modulo 181440; 39 candidates fall into the range and three
  of them are the lunation count of a Tishrei.  Hence `Good n` for every day of Temporal's range outside three
  explicit windows.
-/
import TemporalModel.Lemmas.HebrewLemmas
namespace TemporalModel
namespace Cal
namespace Heb

/-- A molad exactly at Saturday 18 h 0 p: the number of lunations is 30252 modulo the 181440 ḥalakim of a week
    (765433 is invertible modulo 181440). -/
theorem gate_lunations (m q : Int) (h : 31524 + m * 765433 = 181440 * q + 174960) : ∃ t : Int, m = 30252 + 181440 * t := by
  -- 74377 is the inverse: 74377 * 765433 = 1 + 181440 * 313771, and 74377 * (174960 - 31524) = 30252 + 181440 * 58798.
  -- (Left to `omega`, the elimination takes 170 M heartbeats.)
  refine ⟨74377 * q - 313771 * m + 58798, Int.eq_of_sub_eq_zero ?_⟩
  have key : m - (30252 + 181440 * (74377 * q - 313771 * m + 58798)) =
      74377 * ((31524 + m * 765433) - (181440 * q + 174960)) := by omega
  rw [key, h, Int.sub_self, Int.mul_zero]

/-- Of the lunation counts `30252 + 181440 t` that fall into Temporal's range (`-19 ≤ t ≤ 19`), three are the
    lunation count of a Tishrei.  A Tishrei with `m` lunations before it can only be that of year
    `(19 m + 17) / 235 + 1`, so each candidate is settled by one division. -/
theorem gate_candidates : ∀ k : Nat, k < 39 →
    let m : Int := 30252 + 181440 * (k - 19)
    let y : Int := (19 * m + 17) / 235 + 1
    19 * m ≤ 235 * (y - 1) + 1 → y = -114910 ∨ y = 75795 ∨ y = 193152 := by
  decide +kernel

/-- **The Hebrew years of Temporal's range (−268059 … 279518) whose molad of Tishrei falls exactly on Saturday 18 h
    0 p are −114910, 75795 and 193152.** -/
theorem gate_years (y : Int) (h1 : -268059 ≤ y) (h2 : y ≤ 279518) :
    inWeek y = 174960 ↔ (y = -114910 ∨ y = 75795 ∨ y = 193152) := by
  constructor
  · intro h
    unfold inWeek at h
    -- `molad y` stays folded: `omega` is not to see 765433 and 181440 in one equation
    obtain ⟨t, ht⟩ := gate_lunations (monthsPreceding y) (molad y / 181440) (show molad y = _ by omega)
    have hy : y - 1 = (19 * monthsPreceding y + 17) / 235 ∧ 19 * monthsPreceding y ≤ 235 * (y - 1) + 1 := by
      unfold monthsPreceding; omega
    rw [ht] at hy
    have hc := gate_candidates (t + 19).toNat (by omega)
    rw [Int.toNat_of_nonneg (by omega), Int.add_sub_cancel] at hc
    simp only at hc
    omega
  · rintro (e | e | e) <;> subst e <;> decide +kernel

/-- the estimated year of day `n` is one of the three years with a molad at Saturday 18 h 0 p or next to one -/
def InGateWindow (n : Int) : Prop :=
  (-114911 ≤ est n ∧ est n ≤ -114909) ∨ (75794 ≤ est n ∧ est n ≤ 75796) ∨ (193151 ≤ est n ∧ est n ≤ 193153)

instance (n : Int) : Decidable (InGateWindow n) := by unfold InGateWindow; infer_instance

theorem good_outside_windows (n : Int) (hn : InTemporalDays n) (hw : ¬ InGateWindow n) : Good n := by
  have hb : -268058 ≤ est n ∧ est n ≤ 279517 := by unfold est EPOCH; unfold InTemporalDays at hn; omega
  unfold InGateWindow at hw
  refine ⟨?_, ?_, ?_⟩ <;> intro h <;> rw [gate_years _ (by omega) (by omega)] at h <;> omega

end Heb
end Cal
end TemporalModel
