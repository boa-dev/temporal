/-
  Lemmas/MergeLemmas.lean — the steps of Model/Partial.lean, one at a time, against the rules of the reference merge
  (Spec/Merge.lean).  `ResolvedCalendarFields::try_from_partial` resolves year, month and day in turn: the month step is
  `mergeMonthSpec` on every record that names a month (`resolveIsoMonth_num`); the day step is `mergeDaySpec`, because
  the month step only hands on months of the ISO year (`resolvedFieldsIso_eq`).  The fallback merge of `with` is the
  other half: it returns a record that names a month, on which the month rule answers as it does on the given fields
  with the receiver's month as default (`PartialDate.withFallback_ok`), and whose year resolves by the year rule of
  `mergeDateSpec` (`eraYearIso_merged`).  Last, what the constructors and `with` / `from_partial` of Model/Partial.lean
  return is valid and in range.
-/
import TemporalModel.Spec.Merge
import TemporalModel.Lemmas.DateLemmas
import TemporalModel.Lemmas.TimeLemmas
namespace TemporalModel
open Greg

theorem monthToMonthCode_of_mem {m : Int} (h1 : 1 ≤ m) (h13 : m ≤ 13) :
    monthToMonthCode m = .ok ⟨m.toNat, false⟩ := by
  unfold monthToMonthCode; rw [if_pos ⟨h1, h13⟩]

theorem MonthCode.validateIso_eq (c : MonthCode) :
    c.validateIso = if c.leap ∨ ¬ (1 ≤ c.num ∧ c.num ≤ 12) then .err .range else .ok () := by
  unfold MonthCode.validateIso
  cases c.leap <;> simp only [Bool.not_false, Bool.not_true, Bool.false_eq_true, true_and, false_and, false_or, true_or,
    if_true, if_false, ite_not]

theorem resolveIsoMonth_valid {x : PartialDate} {ov : Overflow} :
    (resolveIsoMonth x ov).Ensures fun c => 1 ≤ (c.num : Int) ∧ (c.num : Int) ≤ 12 := by
  simp only [resolveIsoMonth, MonthCode.validateIso, ensures]
  omega

/-- A month of the ISO year resolves, by way of its month code, to itself (the left side is what unfolding
    `resolveIsoMonth` leaves in `resolveIsoMonth_num`). -/
theorem monthToMonthCode_num {m : Int} (h1 : 1 ≤ m) (h12 : m ≤ 12) :
    (do let c ← (do let c ← monthToMonthCode m; c.validateIso; pure c); pure (c.num : Int)) = .ok m := by
  have hn : 1 ≤ m.toNat ∧ m.toNat ≤ 12 := by omega
  rw [monthToMonthCode_of_mem h1 (by omega), Out.bind_ok, MonthCode.validateIso, if_pos ⟨rfl, hn⟩]
  exact congrArg Out.ok (Int.toNat_of_nonneg (by omega))

/-- The month step is the month rule on every record that names a month (on one that names none the crate
    reports a TypeError; `with` never gets there, see `PartialDate.withFallback_ok`). -/
theorem resolveIsoMonth_num (x : PartialDate) (ov : Overflow) (fm : Int) (h : ¬ (x.month = none ∧ x.monthCode = none)) :
    (do let c ← resolveIsoMonth x ov; pure (c.num : Int)) = mergeMonthSpec fm x.month x.monthCode ov := by
  unfold resolveIsoMonth resolveIsoMonthCode mergeMonthSpec
  cases hm : x.month with
  | none =>
    cases hc : x.monthCode with
    | none => exact absurd ⟨hm, hc⟩ h
    | some c => simp only [MonthCode.validateIso_eq, Out.ite_bind, Out.bind_ok, Out.bind_err, Out.pure_eq_ok]
  | some m =>
    cases hc : x.monthCode with
    | none =>
      cases ov with
      | constrain =>
        have hk := clamp_mem m 1 12 (by decide)
        simp only [if_true, monthToMonthCode_num hk.1 hk.2]
      | reject =>
        simp only [reduceCtorEq, if_false, ite_not, Out.ite_bind, Out.bind_err]
        exact ite_congr rfl (fun hk => monthToMonthCode_num hk.1 hk.2) (fun _ => rfl)
    | some c => simp only [MonthCode.validateIso_eq, Out.ite_bind, Out.bind_ok, Out.bind_err, Out.pure_eq_ok]

/-- The month code of a month of the ISO year names that month, with or without the month itself supplied. -/
theorem mergeMonthSpec_code_of_mem {m : Int} (h1 : 1 ≤ m) (h12 : m ≤ 12) (fm : Int) (ov : Overflow) :
    mergeMonthSpec fm none (some ⟨m.toNat, false⟩) ov = .ok m ∧
    mergeMonthSpec fm (some m) (some ⟨m.toNat, false⟩) ov = .ok m := by
  have hn : 1 ≤ m.toNat ∧ m.toNat ≤ 12 := by omega
  have hnat : ((m.toNat : Nat) : Int) = m := Int.toNat_of_nonneg (by omega)
  have code : mergeMonthSpec fm none (some ⟨m.toNat, false⟩) ov = .ok m :=
    (if_neg (not_or.mpr ⟨nofun, not_not_intro hn⟩)).trans (congrArg Out.ok hnat)
  exact ⟨code, (if_neg (fun h => h hnat.symm)).trans code⟩

theorem mergeDaySpec_of_mem {y m d : Int} (h1 : 1 ≤ d) (h2 : d ≤ dim y m) (ov : Overflow) : mergeDaySpec y m d ov = .ok d := by
  cases ov with
  | constrain => exact congrArg Out.ok (clamp_eq_self h1 h2)
  | reject => exact if_pos ⟨h1, h2⟩

theorem resolvedFieldsIso_eq (p : PartialDate) (ov : Overflow) (rt : ResolutionType) :
    resolvedFieldsIso p ov rt = (do
      let y ← eraYearIso p
      let m ← (do let c ← resolveIsoMonth p ov; pure (c.num : Int))
      let d ← resolveDay p.day (rt = .yearMonth)
      let d ← mergeDaySpec y m d ov
      pure (y, m, d)) := by
  unfold resolvedFieldsIso
  cases eraYearIso p with
  | ok y =>
    cases hc : resolveIsoMonth p ov with
    | ok c =>
      -- days are checked against a month the month step has passed, where `iso_days_in_month` is `dim`
      have hm := resolveIsoMonth_valid _ hc
      cases ov with
      | constrain => simp only [Out.bind_ok, if_true, constrainIsoDay_eq y c.num _ hm.1 hm.2]; rfl
      | reject => simp only [Out.bind_ok, reduceCtorEq, if_false, isoDaysInMonth_eq y c.num hm.1 hm.2]; rfl
    | err k => rfl
    | panic => rfl
  | err k => rfl
  | panic => rfl

theorem resolvedFieldsIso_yearMonth_day {p : PartialDate} {ov : Overflow} :
    (resolvedFieldsIso p ov .yearMonth).Ensures (·.2.2 = 1) := by
  simp only [resolvedFieldsIso_eq, resolveDay, decide_true, if_true, ensures]
  intro y _ m _
  rw [mergeDaySpec_of_mem (Int.le_refl 1) (dim_pos y m)]
  exact (Out.ensures_ok ..).mpr rfl

/-- What the fallback merge returns when the receiver's month is a month of the ISO year.  (A receiver's month 13 also
    gets through `month_to_month_code`, but then the month step rejects M13 where the month rule answers 13.) -/
theorem PartialDate.withFallback_ok (p : PartialDate) (fy fm fd : Int) (wd : Bool) (hr : 1 ≤ fm ∧ fm ≤ 12) :
    ∃ mm cc, p.withFallback fy fm fd wd =
        .ok ⟨if p.year.isSome ∨ p.era ∨ p.eraYear.isSome then p.year else some fy, mm, cc,
          if wd then some (p.day.getD fd) else none, p.era, p.eraYear⟩ ∧
      ¬ (mm = none ∧ cc = none) ∧ ∀ ov, mergeMonthSpec fm mm cc ov = mergeMonthSpec fm p.month p.monthCode ov := by
  obtain ⟨y, pm, pc, d, pera, pey⟩ := p
  unfold PartialDate.withFallback
  cases pm with
  | some m => cases pc <;> exact ⟨some m, _, rfl, nofun, fun _ => rfl⟩
  | none =>
    cases pc with
    | some c => exact ⟨some c.num, some c, rfl, nofun, fun _ => if_neg (fun h => h rfl)⟩
    | none =>
      refine ⟨none, some ⟨fm.toNat, false⟩, ?_, nofun, fun ov => (mergeMonthSpec_code_of_mem hr.1 hr.2 fm ov).1⟩
      simp only [monthToMonthCode_of_mem hr.1 (by omega)]; rfl

theorem eraYearIso_merged (p : PartialDate) (fy : Int) (mm : Option Int) (cc : Option MonthCode) (dd : Option Int) :
    eraYearIso ⟨if p.year.isSome ∨ p.era ∨ p.eraYear.isSome then p.year else some fy, mm, cc, dd, p.era, p.eraYear⟩ =
      if p.era ∧ p.eraYear.isSome ∧ p.year.isNone then .err .range
      else if p.era ∨ p.eraYear.isSome then .err .type
      else .ok (p.year.getD fy) := by
  obtain ⟨y, _, _, _, e, ey⟩ := p
  cases y <;> cases e <;> cases ey <;> rfl

@[ensures] theorem isoTimeNew_valid {h mi s ms us ns : Int} {ov : Overflow} :
    (isoTimeNew h mi s ms us ns ov).Ensures (·.isValid = true) := by
  cases ov
  · have := clamp_mem h 0 23 (by decide); have := clamp_mem mi 0 59 (by decide); have := clamp_mem s 0 59 (by decide)
    have := clamp_mem ms 0 999 (by decide); have := clamp_mem us 0 999 (by decide); have := clamp_mem ns 0 999 (by decide)
    simp only [isoTimeNew, IsoTime.isValid_iff, ensures]; omega
  · simp only [isoTimeNew, ensures]

/-- A year-month built by `yearMonthNew` from a valid ISO date under constrain is that date (or a RangeError). -/
theorem yearMonthNew_constrain_ok (y m d : Int) (hv : Valid y m d) (r : IsoDate)
    (h : yearMonthNew y m (some d) .constrain = .ok r) : r = ⟨y, m, d⟩ := by
  unfold yearMonthNew at h
  rw [Option.getD_some, IsoDate.regulate_constrain] at h
  obtain ⟨h1, h2, h3, h4⟩ := hv
  rw [clamp_eq_self h1 h2, clamp_eq_self h3 h4] at h
  simp only [Out.bind_ok] at h
  split at h
  · cases h; rfl
  · cases h

@[ensures] theorem dateFromPartial_inRange {p : PartialDate} {ov : Overflow} : (dateFromPartial p ov).Ensures InRange := by
  simp only [dateFromPartial, ensures]

theorem plainDateFromPartial_inRange {p : PartialDate} {oov : Option Overflow} :
    (plainDateFromPartial p oov).Ensures InRange := by
  simp only [plainDateFromPartial, ensures]

theorem plainDateWith_inRange {a : IsoDate} {p : PartialDate} {oov : Option Overflow} :
    (plainDateWith a p oov).Ensures InRange := by
  simp only [plainDateWith, ensures]

theorem plainTimeWith_valid {t : IsoTime} {p : PartialTime} {oov : Option Overflow} :
    (plainTimeWith t p oov).Ensures (·.isValid = true) := by
  simp only [plainTimeWith, isoTimeWith, ensures]

theorem plainTimeFromPartial_valid {p : PartialTime} {oov : Option Overflow} :
    (plainTimeFromPartial p oov).Ensures (·.isValid = true) := by
  simp only [plainTimeFromPartial, isoTimeWith, ensures]

theorem yearMonthNew_limits {y m : Int} {rd : Option Int} {ov : Overflow} :
    (yearMonthNew y m rd ov).Ensures fun r => yearMonthWithinLimits r.year r.month = true := by
  simp only [yearMonthNew, ensures]

end TemporalModel
