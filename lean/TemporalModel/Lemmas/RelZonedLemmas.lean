/-
  Lemmas/RelZonedLemmas.lean — Model/RelativeZoned.lean: without a zone its rounding functions are the plain ones of
  Model/Relative.lean; with one, what a successful `NudgeToZonedTime` and its local-day bracket return.
-/
import TemporalModel.Model.RelativeZoned
import TemporalModel.Lemmas.DurationLemmas
namespace TemporalModel

theorem toNsIn_none (dt : IsoDateTime) : toNsIn none dt = dt.utcEpochNs := rfl

theorem nudgeCalendarUnitZ_none (sign destNs : Int) (dt : IsoDateTime) (date : Dur) (o : Resolved) :
    nudgeCalendarUnitZ none sign destNs dt date o = nudgeCalendarUnit sign destNs dt date o := rfl

theorem bubbleLoopZ_none (sign nudgeNs : Int) (dt : IsoDateTime) (largest : TUnit) (fuel : Nat) (u : TUnit) (d : Dur) :
    bubbleLoopZ none sign nudgeNs dt largest fuel u d = bubbleLoop sign nudgeNs dt largest fuel u d := by
  induction fuel generalizing u d with
  | zero => rfl
  | succ n ih =>
    unfold bubbleLoopZ bubbleLoop
    simp only [ih, toNsIn_none]
    rfl

theorem bubbleRelativeDurationZ_none (sign nudgeNs : Int) (dt : IsoDateTime) (date : Dur) (norm : Int)
    (largest smallest : TUnit) :
    bubbleRelativeDurationZ none sign nudgeNs dt date norm largest smallest =
      bubbleRelativeDuration sign nudgeNs dt date norm largest smallest := by
  unfold bubbleRelativeDurationZ bubbleRelativeDuration
  simp only [bubbleLoopZ_none]

theorem roundRelativeDurationZ_none (date : Dur) (norm destNs : Int) (dt : IsoDateTime) (o : Resolved) :
    roundRelativeDurationZ none date norm destNs dt o = roundRelativeDuration date norm destNs dt o := by
  unfold roundRelativeDurationZ roundRelativeDuration
  simp only [Option.isSome_none, Bool.false_and, Bool.or_false, nudgeCalendarUnitZ_none,
    bubbleRelativeDurationZ_none]

theorem totalRelativeDurationZ_none (date : Dur) (norm destNs : Int) (dt : IsoDateTime) (u : TUnit) :
    totalRelativeDurationZ none date norm destNs dt u = totalRelativeDuration date norm destNs dt u := by
  unfold totalRelativeDurationZ totalRelativeDuration
  simp only [Option.isSome_none, Bool.false_and, Bool.or_false, nudgeCalendarUnitZ_none]
  rfl

theorem zonedDayBracket_eq_ok {tz : TZ} {sign : Int} {dt : IsoDateTime} {date : Dur} {s e : Int}
    (h : zonedDayBracket tz sign dt date = .ok (s, e)) :
    ∃ mid, plainDateAdd dt.date (dateDur date.years date.months date.weeks date.days) .constrain = .ok mid ∧
      tz.epochNsFor ⟨mid, dt.time⟩ .compatible = .ok s ∧
      tz.epochNsFor ⟨IsoDate.balance mid.year mid.month (mid.day + sign), dt.time⟩ .compatible = .ok e := by
  simp only [zonedDayBracket, Out.bind_eq_ok, Out.pure_eq_ok, Out.ok.injEq, Prod.mk.injEq] at h
  obtain ⟨mid, hmid, _, hs, _, he, rfl, rfl⟩ := h
  exact ⟨mid, hmid, hs, he⟩

/-- What a successful `NudgeToZonedTime` returns, given the ends `s`, `e` of the local day: the time rounded once and
    measured from `s`, or - when that reaches `e` - its excess over the day rounded again and measured from `e`. -/
theorem nudgeToZonedTime_eq_ok {tz : TZ} {sign : Int} {dt : IsoDateTime} {date : Dur} {norm : Int} {o : Resolved}
    {len : Nat} {s e : Int} {r : NudgeRecord} (hlen : o.smallest.asNanoseconds = some len)
    (hb : zonedDayBracket tz sign dt date = .ok (s, e))
    (h : nudgeToZonedTime tz sign dt date norm o = .ok r) :
    let rounded := RoundI128.round norm (len * o.increment) o.mode
    let again := RoundI128.round (rounded - (e - s)) (len * o.increment) o.mode
    r = if intSign (rounded - (e - s)) ≠ -sign
      then { date := dateDur date.years date.months date.weeks (date.days + sign), norm := again,
             nudgeEpochNs := again + e, expanded := true, totalParts := none }
      else { date := dateDur date.years date.months date.weeks date.days, norm := rounded,
             nudgeEpochNs := rounded + s, expanded := false, totalParts := none } := by
  intro rounded again
  unfold nudgeToZonedTime at h
  simp only [hb, hlen, Out.bind_ok, nsDifference, Out.bind_eq_ok, normChecked_eq_ok] at h
  obtain ⟨_, ⟨_, rfl⟩, _, ⟨_, rfl⟩, _, ⟨_, rfl⟩, h⟩ := h
  split at h <;>
    simp only [Out.bind_eq_ok, normChecked_eq_ok, Dur.new_eq_ok, Out.err_ite_eq_ok, Out.pure_eq_ok,
      Out.ok.injEq] at h
  · obtain ⟨_, ⟨_, rfl⟩, _, ⟨_, rfl⟩, _, ⟨_, rfl⟩, _, rfl⟩ := h
    exact (if_pos ‹_›).symm
  · obtain ⟨_, ⟨_, rfl⟩, _, ⟨_, rfl⟩, _, rfl⟩ := h
    exact (if_neg ‹_›).symm

end TemporalModel
