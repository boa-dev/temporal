/-
  Lemmas/FormatLemmas.lean — `Fmt.digits n w` is `n mod 10^w` written in exactly `w` digit characters. Every fact
  about it comes from `digits_succ` (the last character is the last digit) by induction on the width. Beside it what
  C11 and C12 need of the readers: `readYear` on a leading digit, the cascade of `sigDigits`, and a `List` fact on
  `takeWhile` for the fraction of the grammar.
-/
import TemporalModel.Model.Format
namespace TemporalModel
open Fmt

theorem drop_takeWhile_length {α : Type} (p : α → Bool) (l : List α) :
    l.drop (l.takeWhile p).length = l.dropWhile p := by
  have := List.drop_left (l₁ := l.takeWhile p) (l₂ := l.dropWhile p)
  rwa [List.takeWhile_append_dropWhile] at this

theorem digitChar_toNat (n : Nat) : (digitChar n).toNat = 48 + n % 10 := by
  unfold digitChar
  have hk : n % 10 < 10 := Nat.mod_lt _ (by decide)
  generalize n % 10 = k at hk
  have : k = 0 ∨ k = 1 ∨ k = 2 ∨ k = 3 ∨ k = 4 ∨ k = 5 ∨ k = 6 ∨ k = 7 ∨ k = 8 ∨ k = 9 := by omega
  rcases this with rfl | rfl | rfl | rfl | rfl | rfl | rfl | rfl | rfl | rfl <;> rfl

theorem charVal_digitChar (n : Nat) : charVal (digitChar n) = n % 10 := by
  rw [charVal, digitChar_toNat, Nat.add_sub_cancel_left]

theorem isDigit_digitChar (n : Nat) : isDigit (digitChar n) = true := by
  rw [isDigit, digitChar_toNat]
  exact decide_eq_true ⟨Nat.le_add_right .., by omega⟩

theorem readNat_append_one (l : List Char) (c : Char) : readNat (l ++ [c]) = readNat l * 10 + charVal c := by
  unfold readNat; rw [List.foldl_append]; rfl

theorem digits_succ (n w : Nat) : digits n (w + 1) = digits (n / 10) w ++ [digitChar n] := rfl

theorem digits_length (n w : Nat) : (digits n w).length = w := by
  induction w generalizing n with
  | zero => rfl
  | succ w ih => rw [digits_succ, List.length_append, ih]; rfl

theorem digits_all_isDigit (n w : Nat) : (digits n w).all isDigit = true := by
  induction w generalizing n with
  | zero => rfl
  | succ w ih => rw [digits_succ, List.all_append, ih, List.all_cons, isDigit_digitChar n]; rfl

theorem readNat_digits (n w : Nat) : readNat (digits n w) = n % 10 ^ w := by
  induction w generalizing n with
  | zero => rw [Nat.pow_zero, Nat.mod_one]; rfl
  | succ w ih =>
    rw [digits_succ, readNat_append_one, ih, charVal_digitChar n, Nat.pow_succ, Nat.mul_comm (10 ^ w) 10, Nat.mod_mul]
    omega

theorem take_digits (n : Nat) {a w : Nat} (h : a ≤ w) : (digits n w).take a = digits (n / 10 ^ (w - a)) a := by
  obtain ⟨b, rfl⟩ := Nat.exists_eq_add_of_le h
  clear h
  rw [Nat.add_sub_cancel_left]
  induction b generalizing n with
  | zero => rw [Nat.pow_zero, Nat.div_one]; exact List.take_of_length_le (Nat.le_of_eq (digits_length n a))
  | succ b ih =>
    rw [← Nat.add_assoc, digits_succ, List.take_append_of_le_length (by rw [digits_length]; omega), ih,
      Nat.div_div_eq_div_mul, Nat.pow_succ, Nat.mul_comm 10]

theorem readYear_of_isDigit (c : Char) (cs : List Char) (hc : isDigit c = true) :
    readYear (c :: cs) = (takeDigits 4 (c :: cs)).map (fun p => ((p.1 : Int), p.2)) := by
  unfold readYear
  split
  · rename_i h; cases h; exact absurd hc (by decide)
  · rename_i h; cases h; exact absurd hc (by decide)
  · rfl

theorem sigDigits_spec (ns : Nat) (h : ns < 1000000000) :
    sigDigits ns ≤ 9 ∧ ns % 10 ^ (9 - sigDigits ns) = 0 ∧ (0 < ns → ns % 10 ^ (10 - sigDigits ns) ≠ 0) ∧
    (ns = 0 ↔ sigDigits ns = 0) := by
  -- walk down the cascade: in the branch answering `k` the test that has just passed is the second claim and the
  -- test that failed before it the third
  unfold sigDigits
  by_cases c0 : ns % 1000000000 = 0
  · rw [if_pos c0]
    have h0 : ns = 0 := by omega
    exact ⟨Nat.zero_le 9, c0, fun hp => absurd h0 (Nat.ne_of_gt hp), iff_of_true h0 rfl⟩
  have hne : ns ≠ 0 := fun h0 => c0 (by rw [h0])
  rw [if_neg c0]
  by_cases c1 : ns % 100000000 = 0
  · rw [if_pos c1]; exact ⟨by decide, c1, fun _ => c0, iff_of_false hne (by decide)⟩
  rw [if_neg c1]
  by_cases c2 : ns % 10000000 = 0
  · rw [if_pos c2]; exact ⟨by decide, c2, fun _ => c1, iff_of_false hne (by decide)⟩
  rw [if_neg c2]
  by_cases c3 : ns % 1000000 = 0
  · rw [if_pos c3]; exact ⟨by decide, c3, fun _ => c2, iff_of_false hne (by decide)⟩
  rw [if_neg c3]
  by_cases c4 : ns % 100000 = 0
  · rw [if_pos c4]; exact ⟨by decide, c4, fun _ => c3, iff_of_false hne (by decide)⟩
  rw [if_neg c4]
  by_cases c5 : ns % 10000 = 0
  · rw [if_pos c5]; exact ⟨by decide, c5, fun _ => c4, iff_of_false hne (by decide)⟩
  rw [if_neg c5]
  by_cases c6 : ns % 1000 = 0
  · rw [if_pos c6]; exact ⟨by decide, c6, fun _ => c5, iff_of_false hne (by decide)⟩
  rw [if_neg c6]
  by_cases c7 : ns % 100 = 0
  · rw [if_pos c7]; exact ⟨by decide, c7, fun _ => c6, iff_of_false hne (by decide)⟩
  rw [if_neg c7]
  by_cases c8 : ns % 10 = 0
  · rw [if_pos c8]; exact ⟨by decide, c8, fun _ => c7, iff_of_false hne (by decide)⟩
  rw [if_neg c8]
  exact ⟨Nat.le_refl 9, Nat.mod_one ns, fun _ => c8, iff_of_false hne (by decide)⟩

end TemporalModel
