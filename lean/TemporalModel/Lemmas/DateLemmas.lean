/-
  Lemmas/DateLemmas.lean — the ISO date layer of Model/IsoDate.lean and Model/DateArith.lean on the Gregorian day line.
  `InRange` is Temporal's date range as a predicate on the day line; each constructor is characterised once against it,
  then AddISODate and the step behind the inverse law `add(until) = other` (the law itself is in LoopLemmas).
  At the end the range check of date-times (Model/DateTime.lean): the limit test of `InRange`, at any time of day.
-/
import TemporalModel.Lemmas.GregorianLemmas
import TemporalModel.Model.DateTime
import TemporalModel.Lemmas.PrimLemmas
namespace TemporalModel
open NS Greg

/-- Temporal's date range on the day line: −100000001 and 100000000 are the day numbers of −271821-04-19 and
    +275760-09-13.  Not symmetric, because the code tests noon of the day strictly against ±(10^8 + 1) days
    (`noon_limits`). -/
def InRange (d : IsoDate) : Prop :=
  Valid d.year d.month d.day ∧ -100000001 ≤ dayNumber d.year d.month d.day ∧ dayNumber d.year d.month d.day ≤ 100000000

/-- The month of a date is 1..12 (all that the termination argument needs of a receiver). -/
def MonthOk (d : IsoDate) : Prop := 1 ≤ d.month ∧ d.month ≤ 12

theorem InRange.monthOk {d : IsoDate} (h : InRange d) : MonthOk d := ⟨h.1.1, h.1.2.1⟩

theorem isValidDate_eq (y m d : Int) : isValidDate y m d = .ok (decide (Valid y m d)) := by
  unfold isValidDate Valid
  by_cases hm : 1 ≤ m ∧ m ≤ 12
  · rw [if_neg (fun h => h hm), isoDaysInMonth_eq y m hm.1 hm.2]
    simp only [Out.bind_ok, Out.pure_eq_ok, hm.1, hm.2, true_and]
  · rw [if_pos hm]
    simp only [← and_assoc, hm, false_and, decide_false]

theorem constrainIsoDay_eq (y m d : Int) (hm1 : 1 ≤ m) (hm12 : m ≤ 12) :
    constrainIsoDay y m d = .ok (clamp d 1 (dim y m)) := by
  unfold constrainIsoDay; rw [isoDaysInMonth_eq y m hm1 hm12]; rfl

theorem IsoDate.regulate_constrain (y m d : Int) :
    IsoDate.regulate y m d .constrain = .ok ⟨y, clamp m 1 12, clamp d 1 (dim y (clamp m 1 12))⟩ := by
  have hm := clamp_mem m 1 12 (by decide)
  unfold IsoDate.regulate; simp only [constrainIsoDay_eq y _ d hm.1 hm.2]; rfl

theorem IsoDate.regulate_reject (y m d : Int) :
    IsoDate.regulate y m d .reject = if Valid y m d then .ok ⟨y, m, d⟩ else .err .range := by
  unfold IsoDate.regulate; simp only [isValidDate_eq, Out.bind_ok, decide_eq_true_eq]; rfl

theorem IsoDate.regulate_ok {y m d : Int} {ov : Overflow} {c : IsoDate} (h : IsoDate.regulate y m d ov = .ok c) :
    c.year = y ∧ Valid c.year c.month c.day ∧ (ov = .reject → c = ⟨y, m, d⟩) := by
  cases ov with
  | constrain =>
    rw [IsoDate.regulate_constrain] at h; cases h
    have hm := clamp_mem m 1 12 (by decide)
    exact ⟨rfl, ⟨hm.1, hm.2, clamp_mem d 1 _ (dim_pos y _)⟩, fun h => by cases h⟩
  | reject =>
    rw [IsoDate.regulate_reject, Out.ite_err_eq_ok] at h
    obtain ⟨hv, h⟩ := h; cases h
    exact ⟨rfl, hv, fun _ => rfl⟩

theorem IsoDate.regulate_of_valid (c : IsoDate) (ov : Overflow) (hv : Valid c.year c.month c.day) :
    IsoDate.regulate c.year c.month c.day ov = .ok c := by
  cases ov with
  | constrain => rw [IsoDate.regulate_constrain, clamp_eq_self hv.1 hv.2.1, clamp_eq_self hv.2.2.1 hv.2.2.2]
  | reject => rw [IsoDate.regulate_reject, if_pos hv]

theorem IsoDate.regulate_day_one {y m : Int} {ov : Overflow} {r : IsoDate} (h : IsoDate.regulate y m 1 ov = .ok r) : r.day = 1 := by
  cases ov with
  | constrain =>
    rw [IsoDate.regulate_constrain] at h; cases h
    exact clamp_eq_self (Int.le_refl 1) (dim_pos y _)
  | reject => rw [(IsoDate.regulate_ok h).2.2 rfl]

theorem InRange.year {c : IsoDate} (h : InRange c) : -271821 ≤ c.year ∧ c.year ≤ 275760 := by
  obtain ⟨hv, h1, h2⟩ := h
  have hb := dayNumber_year_bound c.year c.month c.day hv
  omega

theorem IsoDate.toEpochDays_eq (c : IsoDate) (hm1 : 1 ≤ c.month) (hm12 : c.month ≤ 12) :
    c.toEpochDays = dayNumber c.year c.month c.day :=
  toDays_eq_dayNumber _ _ _ hm1 hm12

theorem InRange.toEpochDays {c : IsoDate} (h : InRange c) : c.toEpochDays = dayNumber c.year c.month c.day :=
  IsoDate.toEpochDays_eq c h.1.1 h.1.2.1

theorem InRange.fromDays {c : IsoDate} (h : InRange c) :
    ymdFromEpochDays (dayNumber c.year c.month c.day) = (c.year, c.month, c.day) := by
  have := fromDays_toDays c.year c.month c.day h.1
  rwa [toDays_eq_dayNumber _ _ _ h.1.1 h.1.2.1] at this

theorem IsoDate.eq_of_dayNumber {a b : IsoDate} (ha : Valid a.year a.month a.day) (hb : Valid b.year b.month b.day)
    (h : dayNumber a.year a.month a.day = dayNumber b.year b.month b.day) : a = b := by
  have := dayNumber_inj _ _ _ _ _ _ ha hb h
  cases a; cases b; simp only [Prod.mk.injEq] at this
  obtain ⟨rfl, rfl, rfl⟩ := this; rfl

/-- At noon the limit test of `iso_dt_within_valid_limits` is exactly Temporal's date range. -/
theorem noon_limits (d : IsoDate) (hv : Valid d.year d.month d.day) :
    isoDtWithinValidLimits d IsoTime.noon = true ↔ InRange d := by
  have hb := dayNumber_year_bound d.year d.month d.day hv
  unfold InRange isoDtWithinValidLimits
  by_cases hy : -271821 ≤ d.year ∧ d.year ≤ 275760
  · simp only [hy, not_true_eq_false, if_false, IsoDate.toEpochDays_eq d hv.1 hv.2.1, toUncheckedEpochNanoseconds, IsoTime.toEpochMs,
      IsoTime.noon, MAX_EPOCH_DAYS, NS_MAX_INSTANT, NS_PER_DAY, MS_PER_DAY, hv, true_and]
    generalize dayNumber d.year d.month d.day = n at *
    split
    · simp only [Bool.false_eq_true, false_iff]; omega
    · simp only [Bool.and_eq_true, decide_eq_true_eq]; omega
  · simp only [hy, not_false_eq_true, if_true, Bool.false_eq_true, false_iff]
    omega

theorem IsoDate.newWithOverflow_eq_ok {y m d : Int} {ov : Overflow} {c : IsoDate} :
    IsoDate.newWithOverflow y m d ov = .ok c ↔ IsoDate.regulate y m d ov = .ok c ∧ InRange c := by
  simp only [IsoDate.newWithOverflow, Out.bind_eq_ok, Out.ite_err_eq_ok, Out.pure_eq_ok, Out.ok.injEq]
  constructor
  · rintro ⟨r, hr, hl, rfl⟩; exact ⟨hr, (noon_limits r (IsoDate.regulate_ok hr).2.1).mp hl⟩
  · rintro ⟨hr, hc⟩; exact ⟨c, hr, (noon_limits c hc.1).mpr hc, rfl⟩

@[ensures] theorem IsoDate.newWithOverflow_inRange {y m d : Int} {ov : Overflow} :
    (IsoDate.newWithOverflow y m d ov).Ensures InRange :=
  fun _ h => (IsoDate.newWithOverflow_eq_ok.mp h).2

@[ensures] theorem IsoDate.newWithOverflow_year {y m d : Int} {ov : Overflow} :
    (IsoDate.newWithOverflow y m d ov).Ensures (·.year = y) :=
  fun _ h => (IsoDate.regulate_ok (IsoDate.newWithOverflow_eq_ok.mp h).1).1

theorem IsoDate.newWithOverflow_of_inRange (c : IsoDate) (ov : Overflow) (h : InRange c) :
    IsoDate.newWithOverflow c.year c.month c.day ov = .ok c :=
  IsoDate.newWithOverflow_eq_ok.mpr ⟨IsoDate.regulate_of_valid c ov h.1, h⟩

@[ensures] theorem plainDateTryNew_inRange {y m d : Int} : (plainDateTryNew y m d).Ensures InRange :=
  IsoDate.newWithOverflow_inRange

theorem plainDateTryNew_ok {y m d : Int} {r : IsoDate} (h : plainDateTryNew y m d = .ok r) :
    r = ⟨y, m, d⟩ ∧ InRange r := by
  have ⟨hr, hi⟩ := IsoDate.newWithOverflow_eq_ok.mp h
  exact ⟨(IsoDate.regulate_ok hr).2.2 rfl, hi⟩

@[ensures] theorem plainDateAdd_inRange {d : IsoDate} {du : Dur} {ov : Overflow} :
    (plainDateAdd d du ov).Ensures InRange := by
  simp only [plainDateAdd, ensures]

@[ensures] theorem plainDateAddDays_inRange {a : IsoDate} {k : Int} : (plainDateAddDays a k).Ensures InRange := by
  simp only [plainDateAddDays, ensures]

theorem IsoDate.balance_spec (y m d : Int) (hm1 : 1 ≤ m) (hm12 : m ≤ 12) :
    Valid (balance y m d).year (balance y m d).month (balance y m d).day ∧
    dayNumber (balance y m d).year (balance y m d).month (balance y m d).day = dayNumber y m d := by
  obtain ⟨y', m', d', he, hv, hd⟩ := isoDateBalance_spec y m d hm1 hm12
  unfold IsoDate.balance; rw [he]
  exact ⟨hv, hd⟩

theorem IsoDate.balance_eq_of_dayNumber {y m d : Int} {b : IsoDate} (hm1 : 1 ≤ m) (hm12 : m ≤ 12) (hb : Valid b.year b.month b.day)
    (h : dayNumber b.year b.month b.day = dayNumber y m d) : IsoDate.balance y m d = b :=
  have hs := IsoDate.balance_spec y m d hm1 hm12
  IsoDate.eq_of_dayNumber hs.1 hb (hs.2.trans h.symm)

theorem IsoDate.newWithOverflow_of_year_out (y m d : Int) (ov : Overflow) (h : ¬ (-271821 ≤ y ∧ y ≤ 275760)) :
    IsoDate.newWithOverflow y m d ov = .err .range := by
  have lim : ∀ mm dd, isoDtWithinValidLimits ⟨y, mm, dd⟩ IsoTime.noon = false := by
    intro mm dd; unfold isoDtWithinValidLimits; simp only [h, not_false_eq_true, if_true]
  unfold IsoDate.newWithOverflow
  cases ov with
  | constrain => rw [IsoDate.regulate_constrain]; simp only [Out.bind_ok, lim]; rfl
  | reject =>
    rw [IsoDate.regulate_reject]; split
    · simp only [Out.bind_ok, lim]; rfl
    · rfl

/-- **AddISODate specification**: years and months first (balanced, the day regulated per `overflow`), then weeks
    and days along the day line. -/
theorem IsoDate.addDateDuration_spec (a : IsoDate) (ys ms ws ds : Int) (ov : Overflow)
    (h1 : (ys.natAbs : Int) < 2147483648) (h2 : (ms.natAbs : Int) < 2147483648)
    (h3 : (ws.natAbs : Int) < 2147483648) (h4 : (ds.natAbs : Int) < 2147483648) (ha : InRange a) :
    a.addDateDuration ys ms ws ds ov =
      (match IsoDate.newWithOverflow (balanceIsoYearMonth (a.year + ys) (a.month + ms)).1
              (balanceIsoYearMonth (a.year + ys) (a.month + ms)).2 a.day ov with
       | .ok inter =>
         if ((ds + ws * 7).natAbs : Int) > 2 * MAX_EPOCH_DAYS then .err .range
         else .ok (IsoDate.balance inter.year inter.month (inter.day + (ds + ws * 7)))
       | .err k => .err k
       | .panic => .panic) := by
  have hy := ha.year
  have hm1 := ha.1.1; have hm12 := ha.1.2.1
  unfold IsoDate.addDateDuration asDateValue balanceIsoYearMonthChecked balanceIsoYearMonth
  rw [if_pos (by omega), if_pos (by omega)]
  simp only [Out.bind_ok]
  -- on the year-fit test of `balanceIsoYearMonthChecked`: a year that does not fit `i32` is also outside Temporal's
  -- range, where the right side's constructor fails with the same RangeError
  split
  case isFalse hfit => rw [IsoDate.newWithOverflow_of_year_out _ _ _ _ (by omega)]; rfl
  simp only [Out.bind_ok]
  cases IsoDate.newWithOverflow (a.year + ys + (a.month + ms - 1) / 12) ((a.month + ms - 1) % 12 + 1) a.day ov with
  | ok inter =>
    simp only [Out.bind_ok]
    rw [if_pos (by omega), if_pos (by omega)]
    rfl
  | err k => rfl
  | panic => rfl

theorem IsoDate.addDateDuration_ok_days {a b : IsoDate} {y m w d : Int} {ov : Overflow}
    (h : a.addDateDuration y m w d ov = .ok b) : -2147483648 ≤ d ∧ d ≤ 2147483647 := by
  simp only [IsoDate.addDateDuration, asDateValue, Out.bind_eq_ok, Out.ite_err_eq_ok] at h
  obtain ⟨ys, -, ms, -, ym, -, inter, -, dd, ⟨hd, -⟩, -⟩ := h
  exact hd

/-- The step behind the inverse law (`diff_add_inverse`): whatever years/months a difference reports, as long as its day
    count is measured from the constrained intermediate date, adding it back lands exactly on the other date. -/
theorem IsoDate.addDateDuration_of_days_from_intermediate (a b : IsoDate) (years months : Int) (c : IsoDate)
    (ha : InRange a) (hb : InRange b)
    (hy : (years.natAbs : Int) < 2147483648) (hmo : (months.natAbs : Int) < 2147483648)
    (hc : IsoDate.newWithOverflow (balanceIsoYearMonth (a.year + years) (a.month + months)).1
            (balanceIsoYearMonth (a.year + years) (a.month + months)).2 a.day .constrain = .ok c)
    (weeks days : Int) (hwd : days + weeks * 7 = b.toEpochDays - c.toEpochDays)
    (hw : (weeks.natAbs : Int) < 2147483648) (hd : (days.natAbs : Int) < 2147483648) :
    a.addDateDuration years months weeks days .constrain = .ok b := by
  have hcr := IsoDate.newWithOverflow_inRange c hc
  rw [hb.toEpochDays, hcr.toEpochDays] at hwd
  rw [IsoDate.addDateDuration_spec a years months weeks days .constrain hy hmo hw hd ha, hc]
  have hk : ((days + weeks * 7).natAbs : Int) ≤ 2 * MAX_EPOCH_DAYS := by
    have := hcr.2; have := hb.2; unfold MAX_EPOCH_DAYS; omega
  simp only
  rw [if_neg (by omega), IsoDate.balance_eq_of_dayNumber hcr.1.1 hcr.1.2.1 hb.1 (by rw [dayNumber_add_day]; omega)]

theorem IsoDate.eq_of_cmp_eq_zero (a b : IsoDate) (h : a.cmp b = 0) : a = b := by
  unfold IsoDate.cmp at h
  have : a.year = b.year ∧ a.month = b.month ∧ a.day = b.day := by omega
  cases a; cases b; simp only at this
  obtain ⟨rfl, rfl, rfl⟩ := this; rfl

theorem IsoDate.cmp_cases (a b : IsoDate) : a.cmp b = 0 ∨ a.cmp b = 1 ∨ a.cmp b = -1 := by
  unfold IsoDate.cmp; omega

/-- `diff_iso_date` splits a day count into weeks and days only for `largest_unit = week`; either way the two add up
    to the count and fit the `i32` range with it. -/
theorem weeksDays_spec (n : Int) (c : Prop) [Decidable c] (hn : (n.natAbs : Int) < 2147483648) :
    ∃ w d, (if c then (Int.tdiv n 7, Int.tmod n 7) else (0, n)) = (w, d) ∧ d + w * 7 = n ∧
      (w.natAbs : Int) < 2147483648 ∧ (d.natAbs : Int) < 2147483648 := by
  split
  · have := tdiv_tmod_spec n 7 (by decide)
    have := Int.natAbs_tdiv_le_natAbs n 7
    exact ⟨_, _, rfl, by omega, by omega, by omega⟩
  · exact ⟨0, n, rfl, by omega, by decide, hn⟩

theorem balanceIsoYearMonth_of_mem {y m : Int} (h1 : 1 ≤ m) (h12 : m ≤ 12) : balanceIsoYearMonth y m = (y, m) := by
  unfold balanceIsoYearMonth; simp only [Prod.mk.injEq]; omega

theorem balanceIsoYearMonth_monthCount (y m : Int) :
    12 * (balanceIsoYearMonth y m).1 + (balanceIsoYearMonth y m).2 = 12 * y + m ∧
    1 ≤ (balanceIsoYearMonth y m).2 ∧ (balanceIsoYearMonth y m).2 ≤ 12 := by
  unfold balanceIsoYearMonth; simp only; omega

theorem IsoDate.addDateDuration_days (a b : IsoDate) (ha : InRange a) (hb : InRange b) :
    a.addDateDuration 0 0 0 (b.toEpochDays - a.toEpochDays) .constrain = .ok b := by
  apply IsoDate.addDateDuration_of_days_from_intermediate a b 0 0 a ha hb (by decide) (by decide)
  · rw [Int.add_zero, Int.add_zero, balanceIsoYearMonth_of_mem ha.1.1 ha.1.2.1]
    exact IsoDate.newWithOverflow_of_inRange a .constrain ha
  · omega
  · decide
  · rw [ha.toEpochDays, hb.toEpochDays]; have := ha.2; have := hb.2; omega

theorem IsoDate.addDateDuration_zero (a : IsoDate) (ha : InRange a) : a.addDateDuration 0 0 0 0 .constrain = .ok a := by
  have := IsoDate.addDateDuration_days a a ha ha
  rwa [Int.sub_self] at this

theorem IsoDateTime.new_eq_ok {d : IsoDate} {t : IsoTime} {r : IsoDateTime} :
    IsoDateTime.new d t = .ok r ↔ isoDtWithinValidLimits d t = true ∧ ⟨d, t⟩ = r := by
  simp only [IsoDateTime.new, Out.ite_err_eq_ok, Out.ok.injEq]

@[ensures] theorem IsoDateTime.new_limits {d : IsoDate} {t : IsoTime} :
    (IsoDateTime.new d t).Ensures fun r => isoDtWithinValidLimits r.date r.time = true := by
  simp only [IsoDateTime.new, ensures]

theorem plainDateTimeTryNew_limits {y m d h mi s ms us ns : Int} :
    (plainDateTimeTryNew y m d h mi s ms us ns).Ensures fun r => isoDtWithinValidLimits r.date r.time = true := by
  simp only [plainDateTimeTryNew, ensures]

theorem plainDateTimeAdd_limits {a : IsoDateTime} {du : Dur} {ov : Overflow} :
    (plainDateTimeAdd a du ov).Ensures fun r => isoDtWithinValidLimits r.date r.time = true := by
  simp only [plainDateTimeAdd, ensures]

theorem plainDateTimeRound_limits {a : IsoDateTime} {raw : RawOptions} :
    (plainDateTimeRound a raw).Ensures fun r => isoDtWithinValidLimits r.date r.time = true := by
  simp only [plainDateTimeRound, ensures]

end TemporalModel
