/-
  Lemmas/ZonedDiffLemmas.lean — what `DifferenceZonedDateTime` (Model/Zone.lean zdtDiffZoned) hands to the rounding
  step: a date part that `add` maps from the receiver's wall-clock date onto the intermediate date, and a time part
  measured from the intermediate date-time's instant.
-/
import TemporalModel.Model.Zone
import TemporalModel.Lemmas.LoopLemmas
import TemporalModel.Lemmas.SplitLemmas
namespace TemporalModel
open Greg

/-- `until` then `add` at the level `DifferenceZonedDateTime` uses them: the date difference of two dates in range,
    with any largest unit, is mapped by `add_date_duration` from the first date exactly onto the second. -/
theorem internalDiff_add_inverse (a b : IsoDate) (L : TUnit) (D : Dur) (ha : InRange a) (hb : InRange b)
    (h : plainDateInternalDiff a b L = .ok D) :
    a.addDateDuration D.years D.months D.weeks D.days .constrain = .ok b := by
  unfold plainDateInternalDiff at h
  split at h
  · cases h; subst b
    exact IsoDate.addDateDuration_zero a ha
  · split at h
    · obtain ⟨_, rfl⟩ := Dur.new_eq_ok.mp h
      exact IsoDate.addDateDuration_days a b ha hb
    · exact diff_add_inverse a b L D ha hb h

/-- For a duration of date fields only, `PlainDate::add_date` is `add_date_duration` followed by `try_new` (the days
    within the range a duration may hold, so that the check made when there are only days passes). -/
theorem plainDateAdd_dateDur (a : IsoDate) (y m w d : Int) (ov : Overflow) (hd : (d.natAbs : Int) ≤ 104249991374) :
    plainDateAdd a (dateDur y m w d) ov =
      (do let r ← a.addDateDuration y m w d ov; plainDateTryNew r.year r.month r.day) := by
  have hof : F64.ofInt (d + 0) = d := by rw [Int.add_zero]; exact F64.ofInt_small _ (by omega)
  unfold plainDateAdd
  rw [show (dateDur y m w d).timeNs = 0 from rfl, timeFromNormalized_zero_day]
  show (if y ≠ 0 ∨ m ≠ 0 ∨ w ≠ 0 then _ else _) = _
  split
  · show (do let r ← a.addDateDuration y m w (F64.ofInt (d + 0)) ov; plainDateTryNew r.year r.month r.day) = _
    rw [hof]
  · have hz : y = 0 ∧ m = 0 ∧ w = 0 := by omega
    show (do let _ ← Dur.new ⟨0, 0, 0, F64.ofInt (d + 0), 0, 0, 0, 0, 0, 0⟩
             let r ← a.addDateDuration 0 0 0 (F64.ofInt (d + 0)) ov
             plainDateTryNew r.year r.month r.day) = _
    rw [hof, Dur.new_days d hd, hz.1, hz.2.1, hz.2.2]; rfl

/-- `internalDiff_add_inverse` through `PlainDate::add_date` (what `NudgeToZonedTime` and `AddZonedDateTime` call). -/
theorem plainDateAdd_internalDiff (a b : IsoDate) (L : TUnit) (D : Dur) (ha : InRange a) (hb : InRange b)
    (h : plainDateInternalDiff a b L = .ok D) :
    plainDateAdd a (dateDur D.years D.months D.weeks D.days) .constrain = .ok b := by
  have hinv := internalDiff_add_inverse a b L D ha hb h
  have hdb := IsoDate.addDateDuration_ok_days hinv
  rw [plainDateAdd_dateDur _ _ _ _ _ _ (by omega), hinv]
  exact IsoDate.newWithOverflow_of_inRange b .reject hb

/-- A date part of sign zero has no field set, so adding it leaves the date where it is. -/
theorem plainDateAdd_of_sign_zero {a mid : IsoDate} {date : Dur} (ha : InRange a) (hz : date.sign = 0)
    (h : plainDateAdd a (dateDur date.years date.months date.weeks date.days) .constrain = .ok mid) : mid = a := by
  have hall : ∀ v ∈ date.fields, v = 0 := by
    unfold Dur.sign at hz
    rcases Dur.signOf_cases date.fields with ⟨_, h⟩ | ⟨e, _⟩ | ⟨e, _⟩
    · exact h
    · omega
    · omega
  obtain ⟨hy, hm, hw, hd, -⟩ := (Dur.forall_mem_fields date _).mp hall
  rw [hy, hm, hw, hd, plainDateAdd_dateDur _ _ _ _ _ _ (by decide), IsoDate.addDateDuration_zero a ha, Out.bind_ok,
    show plainDateTryNew a.year a.month a.day = .ok a from IsoDate.newWithOverflow_of_inRange a .reject ha] at h
  cases h; rfl

/-- What a successful run returned, whatever the fuel; that the fuel suffices is not said here. -/
theorem dayCorrectionLoop_eq_ok (tz : TZ) (start end_ : IsoDateTime) (ns2 sign maxCorr : Int) :
    ∀ (fuel : Nat) (corr : Int) (idt : IsoDateTime) (td : Int),
      dayCorrectionLoop tz start end_ ns2 sign maxCorr fuel corr = .ok (idt, td) →
      idt.time = start.time ∧ ∃ ins, tz.epochNsFor idt .compatible = .ok ins ∧ td = ns2 - ins ∧
        (td.natAbs : Int) ≤ Dur.MAX_TIME_DURATION := by
  intro fuel
  induction fuel with
  | zero => intro _ _ _ h; exact nomatch (show Out.panic = _ from h)
  | succ n ih =>
    intro corr idt td h
    unfold dayCorrectionLoop at h
    simp only [Out.bind_eq_ok, nsDifference, normChecked_eq_ok] at h
    obtain ⟨ins, h1, _, ⟨hbd, rfl⟩, h⟩ := h
    split at h
    · cases h
      exact ⟨rfl, ins, h1, rfl, hbd⟩
    · exact ih _ _ _ h

/-- **What `DifferenceZonedDateTime` hands to the rounding step**: the date part, added to the receiver's wall-clock
    date and resolved in the zone at the receiver's time of day, is an instant from which the time part reaches the
    other instant exactly. Then four side facts: the date part has only date fields set; its days fit an `i32`
    (`add_date_duration` accepted them: `IsoDate.addDateDuration_ok_days`); the time part is within a duration's range (the
    correction loop checks it); the receiver's wall-clock date is in range. -/
theorem zdtDiffZoned_eq_ok (tz : TZ) (ns1 ns2 : Int) (L : TUnit) (date : Dur) (td : Int) (dt : IsoDateTime)
    (hne : ns1 ≠ ns2) (hd : zdtDiffZoned tz ns1 ns2 L = .ok (date, td)) (hdt : tz.isoDateTimeFor ns1 = .ok dt) :
    ∃ mid ins,
      plainDateAdd dt.date (dateDur date.years date.months date.weeks date.days) .constrain = .ok mid ∧
      tz.epochNsFor ⟨mid, dt.time⟩ .compatible = .ok ins ∧
      ins + td = ns2 ∧
      date = dateDur date.years date.months date.weeks date.days ∧
      (-2147483648 ≤ date.days ∧ date.days ≤ 2147483647) ∧
      (td.natAbs : Int) ≤ Dur.MAX_TIME_DURATION ∧
      InRange dt.date := by
  unfold zdtDiffZoned at hd
  rw [if_neg hne, hdt] at hd
  simp only [Out.bind_ok, Out.bind_eq_ok] at hd
  obtain ⟨end_, _, ⟨idt, td'⟩, hloop, hd⟩ := hd
  obtain ⟨htime, ins, hins, htd, htb⟩ := dayCorrectionLoop_eq_ok _ _ _ _ _ _ _ _ _ _ hloop
  simp only [Out.err_ite_eq_ok, Out.pure_eq_ok, Out.ok.injEq, Prod.mk.injEq] at hd
  obtain ⟨sd, hsd, ed, hed, dd, hdd, _, rfl, rfl⟩ := hd
  obtain ⟨e1, r1⟩ := plainDateTryNew_ok hsd
  obtain ⟨e2, r2⟩ := plainDateTryNew_ok hed
  have hsd : sd = dt.date := by rw [e1]
  subst hsd
  refine ⟨ed, ins, plainDateAdd_internalDiff _ ed _ dd r1 r2 hdd, ?_, by omega, rfl,
    IsoDate.addDateDuration_ok_days (internalDiff_add_inverse _ ed _ dd r1 r2 hdd), htb, r1⟩
  have : (⟨ed, dt.time⟩ : IsoDateTime) = idt := by rw [e2, ← htime]
  rw [this]; exact hins

end TemporalModel
