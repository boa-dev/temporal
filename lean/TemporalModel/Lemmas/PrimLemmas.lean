/-
  Lemmas/PrimLemmas.lean — the shared vocabulary of Model/Prim.lean: the outcome monad `Out` (with `Out.Ensures`, the
  postcondition of an outcome, and its simp set), the order of the units, `clamp`, truncating division.
-/
import TemporalModel.Model.Prim
import TemporalModel.Lemmas.SimpAttr
namespace TemporalModel
namespace Out

theorem bind_assoc {α β γ} (x : Out α) (f : α → Out β) (g : β → Out γ) :
    x >>= f >>= g = x >>= fun a => f a >>= g := by cases x <;> rfl

theorem ite_bind {α β} (c : Prop) [Decidable c] (x y : Out α) (f : α → Out β) :
    ((if c then x else y) >>= f) = if c then x >>= f else y >>= f := by
  split <;> rfl

/-- A `do` block succeeds iff every step does.  With the two guard rules below, `pure_eq_ok` and `ok.injEq`,
`simp only [f, ..] at h` turns `h : f x = .ok r` into the chain of successful steps and passed guards. -/
theorem bind_eq_ok {α β} {x : Out α} {f : α → Out β} {r : β} : (x >>= f) = .ok r ↔ ∃ a, x = .ok a ∧ f a = .ok r := by
  cases x <;> simp only [bind_ok, bind_err, bind_panic, reduceCtorEq, false_and, exists_false, ok.injEq, exists_eq_left']

theorem err_ite_eq_ok {α} {c : Prop} [Decidable c] {k : ErrKind} {x : Out α} {r : α} :
    (if c then .err k else x) = .ok r ↔ ¬ c ∧ x = .ok r := by
  split
  · next hc => exact ⟨nofun, fun h => absurd hc h.1⟩
  · next hc => exact ⟨fun h => ⟨hc, h⟩, And.right⟩

theorem ite_err_eq_ok {α} {c : Prop} [Decidable c] {k : ErrKind} {x : Out α} {r : α} :
    (if c then x else .err k) = .ok r ↔ c ∧ x = .ok r := by
  split
  · next hc => exact ⟨fun h => ⟨hc, h⟩, And.right⟩
  · next hc => exact ⟨nofun, fun h => absurd h.1 hc⟩

/-- Whatever value `x` returns satisfies `P`; nothing is said of errors.  `f a = .ok r → P r` is `(f a).Ensures P`
applied to `r`: the postcondition counterpart of `Safe` (SafeBase). -/
def Ensures {α} (x : Out α) (P : α → Prop) : Prop := ∀ a, x = .ok a → P a

section
variable {α β : Type} (P : β → Prop)

theorem ensures_ok (b : β) : (Out.ok b).Ensures P ↔ P b := ⟨fun h => h b rfl, fun h _ e => ok.inj e ▸ h⟩
theorem ensures_pure (b : β) : (pure b : Out β).Ensures P ↔ P b := ensures_ok P b
theorem ensures_err (k : ErrKind) : (Out.err k).Ensures P := nofun
theorem ensures_panic : (Out.panic : Out β).Ensures P := nofun

theorem ensures_bind_iff (x : Out α) (f : α → Out β) : (x >>= f).Ensures P ↔ ∀ a, x = .ok a → (f a).Ensures P := by
  cases x with
  | ok a => exact ⟨fun h _ e => ok.inj e ▸ h, fun h => h a rfl⟩
  | err k => exact ⟨fun _ => nofun, fun _ => nofun⟩
  | panic => exact ⟨fun _ => nofun, fun _ => nofun⟩

theorem ensures_bind_pure (x : Out α) (g : α → β) : (x >>= fun a => pure (g a)).Ensures P ↔ x.Ensures fun a => P (g a) := by
  rw [ensures_bind_iff]
  exact forall_congr' fun a => imp_congr_right fun _ => ensures_pure P (g a)

theorem ensures_ite (c : Prop) [Decidable c] (a b : Out β) :
    (if c then a else b).Ensures P ↔ (c → a.Ensures P) ∧ (¬ c → b.Ensures P) := by
  split
  · next h => exact ⟨fun ha => ⟨fun _ => ha, (absurd h ·)⟩, (·.1 h)⟩
  · next h => exact ⟨fun hb => ⟨(absurd · h), fun _ => hb⟩, (·.2 h)⟩
end

/- `simp only [f, ensures]` decides `Ensures` of a `do` block by its structure, as `simp only [f, safe]` decides `Safe`:
`bind` and `if` by the rules above, an error or panic leaf outright, a call in tail position by the callee's own
`@[ensures]` lemma (stated with the same `P`, a lambda included; a lemma is tagged when some caller ends in its
function, and so are the few plain facts that close a value leaf, `Dur.zero_valid`, `ite_negated_valid`).  What it
leaves open is what is not structural; there the premise `x = .ok a` of `ensures_bind_iff` is at hand.  It works on the
goal only: a fact about an intermediate value, or that a guard was passed, still takes `bind_eq_ok` on the hypothesis.
`ensures_bind_pure` goes before `ensures_bind_iff` (hence `high`): a block that ends in `pure (g a)` hands its
postcondition back to the step before, whose own lemma then applies, where the general rule would leave
`x = .ok a → P (g a)` to be proved by hand.  `bind_ok`: a step that has become `.ok v` under the other rewrites.
`Prod.forall`, `Option.forall` as in the `safe` set; the rest closes what has become `True` or `c → c`.
Trap: a constant in an `if` condition (`nsMaxInstant`) is unfolded after the call, not in it; unfolded in the same
`simp only` the condition no longer agrees with its `Decidable` instance and `ensures_ite` does not fire. -/
attribute [ensures] ensures_ok ensures_pure ensures_err ensures_panic bind_ok ensures_bind_iff ensures_ite
  implies_true imp_self and_true true_and Prod.forall Option.forall
attribute [ensures high] ensures_bind_pure

end Out

namespace TUnit

theorem all_toNat (a : TUnit) : TUnit.all[a.toNat]? = some a := by cases a <;> rfl

theorem toNat_inj {a b : TUnit} (h : a.toNat = b.toNat) : a = b :=
  Option.some.inj (by rw [← all_toNat a, h, all_toNat])

theorem toNat_eq_zero {u : TUnit} : u.toNat = 0 ↔ u = .auto := by cases u <;> decide

theorem isCalendarUnit_iff {u : TUnit} : u.isCalendarUnit = true ↔ 8 ≤ u.toNat := by cases u <;> decide

theorem isDateUnit_of_isCalendarUnit {u : TUnit} : u.isCalendarUnit = true → u.isDateUnit = true := by
  cases u <;> decide

theorem max_comm (a b : TUnit) : TUnit.max a b = TUnit.max b a := by
  unfold TUnit.max
  split <;> split
  · exact toNat_inj (by omega)
  · rfl
  · rfl
  · omega

theorem max_ne_auto (a b : TUnit) (h : a ≠ .auto ∨ b ≠ .auto) : a.max b ≠ .auto := by
  simp only [ne_eq, ← toNat_eq_zero] at h ⊢
  unfold TUnit.max; split <;> omega

/-- `auto` is the least unit, so nothing above a proper unit is `auto`. -/
theorem ne_auto_of_not_lt {l s : TUnit} (hs : s ≠ .auto) (h : ¬ l < s) : l ≠ .auto := by
  simp only [ne_eq, ← toNat_eq_zero] at hs ⊢
  exact fun hl => hs (Nat.le_zero.mp (hl ▸ Nat.le_of_not_lt h))

theorem isCalendarUnit_of_not_lt {l s : TUnit} (h : ¬ l < s) (hs : s.isCalendarUnit = true) : l.isCalendarUnit = true := by
  rw [isCalendarUnit_iff] at *
  exact Nat.le_trans hs (Nat.le_of_not_lt h)

theorem asNanoseconds_isSome {s : TUnit} : s ≠ .auto → ¬ s.isCalendarUnit = true → s.asNanoseconds.isSome := by
  cases s <;> decide

theorem max_day_isDateUnit (s : TUnit) : (s.max .day).isDateUnit = true := by
  cases s <;> rfl

end TUnit

theorem RMode.negate_negate (m : RMode) : m.negate.negate = m := by cases m <;> rfl

theorem clamp_mem (x lo hi : Int) (h : lo ≤ hi) : lo ≤ clamp x lo hi ∧ clamp x lo hi ≤ hi := by
  unfold clamp; omega

theorem clamp_eq_self {x lo hi : Int} (h1 : lo ≤ x) (h2 : x ≤ hi) : clamp x lo hi = x := by
  unfold clamp; omega

theorem tdiv_tmod_spec (a b : Int) (hb : 0 < b) :
    a.tdiv b * b + a.tmod b = a ∧ ((a.tmod b).natAbs : Int) < b ∧ (0 ≤ a → 0 ≤ a.tmod b) ∧ (a ≤ 0 → a.tmod b ≤ 0) := by
  have h1 := Int.tmod_lt_of_pos a hb
  have h2 := Int.lt_tmod_of_pos a hb
  refine ⟨Int.tdiv_mul_add_tmod a b, by omega, Int.tmod_nonneg b, fun h => ?_⟩
  have := Int.tmod_nonneg b (show 0 ≤ -a by omega)
  rw [Int.neg_tmod] at this; omega

end TemporalModel
