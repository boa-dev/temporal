/-
  Lemmas/CalRebuild.lean — rebuilding a date from the fields reported for it.  `from_partial` is two halves: the crate
  resolves the record to (era, year, month code, day), the library (`fromCodes`) turns those into a date.  Here: the
  library gives back the date it reported the fields of, for each family of modelled calendars; the reported month
  codes have the shape the crate's resolution accepts; the crate's half, given what both return; and the era route.
-/
import TemporalModel.Lemmas.CalFieldLemmas
import TemporalModel.Lemmas.MergeLemmas
import TemporalModel.Model.CalGlue
namespace TemporalModel
namespace Cal
open Greg NS

theorem tryNewIso_of_valid (y m d : Int) (hv : Valid y m d) : tryNewIso y m.toNat d = some ⟨y, m, d⟩ := by
  obtain ⟨h1, h2, h3, h4⟩ := hv
  unfold tryNewIso
  have e : ((m.toNat : Nat) : Int) = m := by omega
  have c : 1 ≤ m.toNat ∧ m.toNat ≤ 12 ∧ 1 ≤ d ∧ d ≤ dim y (m.toNat : Int) := by rw [e]; omega
  rw [if_pos c, e]

theorem isoOfDay_dayNumber (iso : IsoDate) (hr : InRange iso) :
    isoOfDay (dayNumber iso.year iso.month iso.day) = some iso := by
  have hi := hr.fromDays
  have h1 := hr.2
  unfold isoOfDay
  have c : -(MAX_EPOCH_DAYS + 400) ≤ dayNumber iso.year iso.month iso.day ∧
      dayNumber iso.year iso.month iso.day ≤ MAX_EPOCH_DAYS + 400 := by unfold MAX_EPOCH_DAYS; omega
  rw [if_pos c]
  simp only [hi]

theorem isoOfDay_eq_some {n : Int} {r : IsoDate} (h : isoOfDay n = some r) :
    Valid r.year r.month r.day ∧ dayNumber r.year r.month r.day = n := by
  unfold isoOfDay at h
  split at h
  · cases h
    obtain ⟨y, m, d, he, hv, hd⟩ := fromDays_spec n
    rw [he]; exact ⟨hv, hd⟩
  · cases h

theorem arithFromCodes_roundtrip {c : ACal} (h : c.Lawful) (iso : IsoDate) (hr : InRange iso) :
    arithFromCodes c (c.ofDay (dayNumber iso.year iso.month iso.day)).1
      ⟨(c.ofDay (dayNumber iso.year iso.month iso.day)).2.1, false⟩
      (c.ofDay (dayNumber iso.year iso.month iso.day)).2.2 = some iso := by
  obtain ⟨⟨v1, v2, v3, v4⟩, ht⟩ := ofDay_spec h (dayNumber iso.year iso.month iso.day)
  unfold arithFromCodes
  simp only [Bool.false_eq_true, false_or]
  rw [if_neg (by omega), if_neg (by omega), ht]
  exact isoOfDay_dayNumber iso hr

theorem fields_iso (cal : CalId) (h : cal.isoBased = true) (iso : IsoDate) :
    fields cal iso = some (isoFields cal iso.year iso.month iso.day) := by
  unfold fields; rw [if_pos h]

theorem fields_arith (cal : CalId) (c : ACal) (h : cal.arith = some c) (iso : IsoDate) :
    fields cal iso = some (arithFields cal c (dayNumber iso.year iso.month iso.day)) := by
  have hi : cal.isoBased = false := by apply arith_cases h <;> rfl
  simp only [fields, hi, h, Bool.false_eq_true, if_false]

/-- The two kinds of modelled calendar: the reported fields are those of the ISO date under another year numbering,
    or those of the day-count calendar behind the identifier at the date's day number. -/
theorem fields_cases {cal : CalId} {iso : IsoDate} {f : CalFields} (hf : fields cal iso = some f) :
    (cal.isoBased = true ∧ f = isoFields cal iso.year iso.month iso.day) ∨
    (∃ c, cal.arith = some c ∧ f = arithFields cal c (dayNumber iso.year iso.month iso.day)) := by
  unfold fields at hf
  split at hf
  · rename_i h; cases hf; exact .inl ⟨h, rfl⟩
  · split at hf
    · rename_i c hc; cases hf; exact .inr ⟨c, hc, rfl⟩
    · cases hf

theorem validateCode_plain (cal : CalId) (n : Nat) (h1 : 1 ≤ n)
    (h : n ≤ 12 ∨ (n = 13 ∧ (cal = .coptic ∨ cal = .ethiopic ∨ cal = .ethioaa))) :
    validateCode cal ⟨n, false⟩ = .ok () := by
  unfold validateCode
  rcases h with h | ⟨rfl, h⟩
  · rw [if_pos ⟨rfl, h1, h⟩]
  · rw [if_neg (fun a => absurd a.2.2 (by decide)), if_neg (fun a => Bool.false_ne_true a.2.1), if_pos ⟨h, rfl, rfl⟩]

theorem arith_months (cal : CalId) (c : ACal) (hc : cal.arith = some c) (y : Int) :
    c.months y = 12 ∨ (c.months y = 13 ∧ (cal = .coptic ∨ cal = .ethiopic ∨ cal = .ethioaa)) := by
  apply arith_cases hc
  case coptic => exact .inr ⟨rfl, .inl rfl⟩
  case ethiopic => exact .inr ⟨rfl, .inr (.inl rfl)⟩
  case ethioaa => exact .inr ⟨rfl, .inr (.inr rfl)⟩
  all_goals exact .inl rfl

/-- What the crate's month-code resolution needs of the reported fields: a plain (non-leap) code whose number is the
    month, valid for the calendar. -/
theorem fields_code_shape (cal : CalId) (iso : IsoDate) (hr : InRange iso) (f : CalFields)
    (hf : fields cal iso = some f) :
    validateCode cal f.monthCode = .ok () ∧ monthToMonthCode f.month = .ok f.monthCode := by
  rcases fields_cases hf with ⟨_, rfl⟩ | ⟨c, hc, rfl⟩
  · obtain ⟨h1, h2, _, _⟩ := hr.1
    exact ⟨validateCode_plain cal _ (by omega) (.inl (by omega)), monthToMonthCode_of_mem (m := iso.month) h1 (by omega)⟩
  · obtain ⟨⟨v1, v2, _, _⟩, _⟩ := ofDay_spec (arith_lawful cal c hc) (dayNumber iso.year iso.month iso.day)
    have hm := arith_months cal c hc (c.ofDay (dayNumber iso.year iso.month iso.day)).1
    constructor
    · refine validateCode_plain cal _ v1 ?_
      rcases hm with h | ⟨h, hcal⟩
      · exact .inl (by omega)
      · by_cases h12 : (c.ofDay (dayNumber iso.year iso.month iso.day)).2.1 ≤ 12
        · exact .inl h12
        · exact .inr ⟨by omega, hcal⟩
    · have := monthToMonthCode_of_mem (m := ((c.ofDay (dayNumber iso.year iso.month iso.day)).2.1 : Int)) (by omega)
        (by rcases hm with h | ⟨h, _⟩ <;> omega)
      rwa [Int.toNat_natCast] at this

theorem fields_year_bound (cal : CalId) (iso : IsoDate) (hr : InRange iso) (f : CalFields)
    (hf : fields cal iso = some f) : -MAX_CALENDAR_YEAR ≤ f.year ∧ f.year ≤ MAX_CALENDAR_YEAR := by
  have hy := hr.year
  unfold MAX_CALENDAR_YEAR
  rcases fields_cases hf with ⟨_, rfl⟩ | ⟨c, hc, rfl⟩
  · simp only [isoFields, yearInfo_year]
    split <;> omega
  · have hb := arith_year_bound cal c hc _ hr.2
    rw [arithFields_year cal c hc]; omega

/-- ISO-based calendars: the library reads the reported year back as the ISO year.  (`japanese`: without an era
    the library takes the year for a year of the Common Era and refuses one below 1.) -/
theorem fromCodes_isoFields (cal : CalId) (hiso : cal.isoBased = true) (hne : cal ≠ .iso8601) (y m d : Int)
    (hv : Valid y m d) (hj : cal = .japanese → 1 ≤ y) :
    fromCodes cal none (isoFields cal y m d).year (isoFields cal y m d).monthCode (isoFields cal y m d).day =
      some ⟨y, m, d⟩ := by
  have ht := tryNewIso_of_valid y m d hv
  cases cal
  case iso8601 => exact absurd rfl hne
  case japanese =>
    have h12 : ¬ (m.toNat > 12) := by have := hv.2.1; omega
    have hy' : ¬ y ≤ 0 := by have := hj rfl; omega
    simp [fromCodes, japaneseFromCodes, isoFields, yearInfo_year, ht, h12, hy']
  case gregory | buddhist | roc => simp [fromCodes, isoFields, yearInfo_year, ht]
  all_goals cases hiso

theorem fromCodes_arith (cal : CalId) (c : ACal) (hc : cal.arith = some c) (y : Int) (code : MonthCode) (d : Int) :
    fromCodes cal none y code d = arithFromCodes c y code d := by
  apply arith_cases hc <;> rfl

theorem fromCodes_arithFields (cal : CalId) (c : ACal) (hc : cal.arith = some c) (iso : IsoDate) (hr : InRange iso) :
    fromCodes cal none (arithFields cal c (dayNumber iso.year iso.month iso.day)).year
      (arithFields cal c (dayNumber iso.year iso.month iso.day)).monthCode
      (arithFields cal c (dayNumber iso.year iso.month iso.day)).day = some iso := by
  rw [fromCodes_arith cal c hc, arithFields_year cal c hc]
  exact arithFromCodes_roundtrip (arith_lawful cal c hc) iso hr

/-- The library's year route for every modelled non-ISO calendar. -/
theorem fromCodes_fields (cal : CalId) (hne : cal ≠ .iso8601) (iso : IsoDate) (hr : InRange iso)
    (hj : cal = .japanese → 1 ≤ iso.year) (f : CalFields) (hf : fields cal iso = some f) :
    fromCodes cal none f.year f.monthCode f.day = some iso := by
  rcases fields_cases hf with ⟨hiso, rfl⟩ | ⟨c, hc, rfl⟩
  · exact fromCodes_isoFields cal hiso hne _ _ _ hr.1 hj
  · exact fromCodes_arithFields cal c hc iso hr

/-- The two shapes of era row that contain a year: counting from 1 with no last year, and from 1 up to `hi`. -/
theorem contains_from_one {n : String} {y : Int} (h : 1 ≤ y) : EraInfo.contains ⟨n, some 1, none⟩ y = true :=
  Bool.and_eq_true_iff.mpr ⟨decide_eq_true h, rfl⟩

theorem contains_one_to {n : String} {y hi : Int} (h : 1 ≤ y ∧ y ≤ hi) :
    EraInfo.contains ⟨n, some 1, some hi⟩ y = true :=
  Bool.and_eq_true_iff.mpr ⟨decide_eq_true h.1, decide_eq_true h.2⟩

theorem resolveEraYear_era (cal : CalId) (e : String) (ey : Int) (info : EraInfo) (m : Option Int)
    (mc : Option MonthCode) (d : Option Int) (hrow : eraInfo cal e = some info) (hin : info.contains ey = true) :
    resolveEraYear cal ⟨some e, some ey, none, m, mc, d⟩ = .ok (some info.name, ey) := by
  simp only [resolveEraYear, hrow, hin, if_true]

theorem resolveCode_of_code {cal : CalId} {p : CalPartial} {c : MonthCode} (hc : p.monthCode = some c)
    (hm : p.month = none ∨ p.month = some (c.num : Int)) (hv : validateCode cal c = .ok ()) :
    resolveCode cal p = .ok c := by
  unfold resolveCode
  rcases hm with hm | hm <;>
    simp only [hm, hc, hv, Out.bind_ok, Out.pure_eq_ok, ne_eq, not_true_eq_false, if_false]

/-- The crate's half of `date_from_partial`, given what the two resolutions and the library return. -/
theorem dateFromPartialCal_of (cal : CalId) (p : CalPartial) (era : Option String) (y : Int) (code : MonthCode)
    (d : Int) (iso : IsoDate) (ov : Overflow) (hres : resolveEraYear cal p = .ok (era, y))
    (hcode : resolveCode cal p = .ok code) (hd : p.day = some d)
    (hyb : -MAX_CALENDAR_YEAR ≤ y ∧ y ≤ MAX_CALENDAR_YEAR) (hlib : fromCodes cal era y code d = some iso)
    (hr : InRange iso) : dateFromPartialCal cal p ov = .ok iso := by
  have hg : ¬ (y < -MAX_CALENDAR_YEAR ∨ y > MAX_CALENDAR_YEAR) := by omega
  unfold dateFromPartialCal resolveFields
  simp only [hres, hcode, hd, resolveDay, Out.bind_ok, Out.pure_eq_ok, Bool.false_eq_true, if_false, hg, hlib]
  exact IsoDate.newWithOverflow_of_inRange iso _ hr

/-- The era route works: the crate resolves the reported era and era year to a code and a year inside the year
    guard, and the library, given these, returns the date. -/
def EraRouteOk (cal : CalId) (era : Option String) (eraYear : Option Int) (mc : MonthCode) (d : Int) (iso : IsoDate) :
    Prop :=
  ∃ e ey, resolveEraYear cal ⟨era, eraYear, none, none, some mc, some d⟩ = .ok (e, ey) ∧
    (-300000 ≤ ey ∧ ey ≤ 300000) ∧ fromCodes cal e ey mc d = some iso

/-- The era route resolves an era and an era year, so both are reported. -/
theorem EraRouteOk.has_era {cal : CalId} {era : Option String} {eraYear : Option Int} {mc : MonthCode} {d : Int}
    {iso : IsoDate} (h : EraRouteOk cal era eraYear mc d iso) : era.isSome = true ∧ eraYear.isSome = true := by
  obtain ⟨_, _, hres, _⟩ := h
  cases era <;> cases eraYear
  case some.some => exact ⟨rfl, rfl⟩
  all_goals cases hres

/-- One row of the era table: the reported era `e` is in it, the reported era year `ey` is inside its bounds, and
    the library reads the row's code with `ey` as it reads the year `yr` given without an era.  Then the era route
    is the year route. -/
theorem era_route_row {cal : CalId} {e : String} {ey yr : Int} {mc : MonthCode} {d : Int} {iso : IsoDate}
    (info : EraInfo) (hrow : eraInfo cal e = some info) (hin : info.contains ey = true)
    (hb : -300000 ≤ ey ∧ ey ≤ 300000)
    (hcode : fromCodes cal (some info.name) ey mc d = fromCodes cal none yr mc d)
    (hlib : fromCodes cal none yr mc d = some iso) : EraRouteOk cal (some e) (some ey) mc d iso :=
  ⟨_, _, resolveEraYear_era cal e ey info _ _ _ hrow hin, hb, hcode ▸ hlib⟩

/-- A row for an era that counts from 1 and has no last year: the crate's bound on the era year and the library's own
    test of it are both `1 ≤ ey`. -/
theorem era_route_row_from_one {cal : CalId} {e : String} {ey yr : Int} {mc : MonthCode} {d : Int} {iso : IsoDate}
    (code : String) (hrow : eraInfo cal e = some ⟨code, some 1, none⟩) (hey : 1 ≤ ey ∧ ey ≤ 300000)
    (hcode : ¬ ey ≤ 0 → fromCodes cal (some code) ey mc d = fromCodes cal none yr mc d)
    (hlib : fromCodes cal none yr mc d = some iso) : EraRouteOk cal (some e) (some ey) mc d iso :=
  era_route_row _ hrow (contains_from_one hey.1) (by omega) (hcode (by omega)) hlib

/-- Outside `japanese` the era route follows from the year route, row by row of the era table.  (A calendar
    without a library model has no year route.)  `(y, m, d)` is the date `yearInfo` is asked about, `code` and `day`
    are what the library is given; ±290000 keeps every era year (at most `y + 5500`) inside ±300000. -/
theorem era_route_of_year_route (cal : CalId) (hj : cal ≠ .japanese) (y m d : Int) (hy : -290000 ≤ y ∧ y ≤ 290000)
    (code : MonthCode) (day : Int) (iso : IsoDate)
    (hlib : fromCodes cal none (yearInfo cal y m d).2.2 code day = some iso) :
    EraRouteOk cal (yearInfo cal y m d).1 (yearInfo cal y m d).2.1 code day iso := by
  cases cal
  case japanese => exact absurd rfl hj
  case gregory =>
    by_cases h : y > 0 <;> simp only [yearInfo, h, if_true, if_false] at hlib ⊢
    · exact era_route_row_from_one "ce" (by decide +kernel) (by omega) (fun hp => by simp [fromCodes, hp]) hlib
    · exact era_route_row_from_one "bce" (by decide +kernel) (by omega)
        (fun hp => by simp [fromCodes, hp, Int.sub_sub_self]) hlib
  case roc =>
    by_cases h : y > 1911 <;> simp only [yearInfo, h, if_true, if_false] at hlib ⊢
    · exact era_route_row_from_one "roc" (by decide +kernel) (by omega) (fun hp => by simp [fromCodes, hp]) hlib
    · exact era_route_row_from_one "roc-inverse" (by decide +kernel) (by omega)
        (fun hp => by simp [fromCodes, hp, show 1 - (1912 - y) + 1911 = y by omega]) hlib
  case coptic =>
    by_cases h : y > 0 <;> simp only [yearInfo, h, if_true, if_false] at hlib ⊢
    · exact era_route_row_from_one "coptic" (by decide +kernel) (by omega) (fun hp => by simp [fromCodes, hp]) hlib
    · exact era_route_row_from_one "coptic-inverse" (by decide +kernel) (by omega)
        (fun hp => by simp [fromCodes, hp, Int.sub_sub_self]) hlib
  case ethiopic =>
    by_cases h : y > 0 <;> simp only [yearInfo, h, if_true, if_false] at hlib ⊢
    · exact era_route_row_from_one "ethiopic" (by decide +kernel) (by omega) (fun hp => by simp [fromCodes, hp]) hlib
    · exact era_route_row_from_one "ethiopic-inverse" (by decide +kernel) (by omega)
        (fun hp => by simp [fromCodes, hp, Int.sub_sub_self]) hlib
  case buddhist =>
    exact era_route_row ⟨"be", none, none⟩ (by decide +kernel) rfl (by omega) (by simp [fromCodes, yearInfo]) hlib
  case ethioaa =>
    exact era_route_row ⟨"ethioaa", none, none⟩ (by decide +kernel) rfl (by omega) (by simp [fromCodes, yearInfo]) hlib
  case indian =>
    exact era_route_row ⟨"indian", none, none⟩ (by decide +kernel) rfl (by omega) (by simp [fromCodes, yearInfo]) hlib
  case islamicCivil =>
    exact era_route_row ⟨"islamic-civil", none, none⟩ (by decide +kernel) rfl (by omega) (by simp [fromCodes, yearInfo]) hlib
  case islamicTbla =>
    exact era_route_row ⟨"islamic-tbla", none, none⟩ (by decide +kernel) rfl (by omega) (by simp [fromCodes, yearInfo]) hlib
  case persian =>
    exact era_route_row ⟨"persian", none, none⟩ (by decide +kernel) rfl (by omega) (by simp [fromCodes, yearInfo]) hlib
  all_goals cases hlib

/-- The crate's table has each modern era under its own code, running from year 1 to the year in which its
    successor starts; the library's lookup by code finds the era; the eras start between 1868 and 2019. -/
theorem japaneseEras_rows : ∀ r ∈ japaneseEras,
    eraInfo .japanese r.1 = some ⟨r.1, some 1, r.2.2.map (fun nx => nx.1 - r.2.1.1 + 1)⟩ ∧
    (japaneseEras.find? (fun e => e.1 = r.1)).any (· = r) = true ∧ 1868 ≤ r.2.1.1 ∧ r.2.1.1 ≤ 2019 := by
  decide +kernel

/-- A date from the start of a modern era on and before the start of the next is rebuilt from that era. -/
theorem era_route_japanese_modern {code : String} {start : Int × Int × Int} {next : Option (Int × Int × Int)}
    (hr : (code, start, next) ∈ japaneseEras) (y m d : Int) (hv : Valid y m d) (hy : y ≤ 275760)
    (hs : ymdLe start (y, m, d) = true) (hn : ∀ nx, next = some nx → ymdLe nx (y, m, d) = false) :
    EraRouteOk .japanese (some code) (some (y - start.1 + 1)) ⟨m.toNat, false⟩ d ⟨y, m, d⟩ := by
  obtain ⟨hrow, hfind, b1, b2⟩ := japaneseEras_rows _ hr
  obtain ⟨-, n1, n2, n3, n4⟩ := japaneseEras_codes _ hr
  obtain ⟨_, hfind, rfl⟩ : ∃ x, japaneseEras.find? (fun e => e.1 = code) = some x ∧ x = (code, start, next) := by
    simpa [Option.any_eq_true] using hfind
  have hs' := (ymdLe_iff _ _).mp hs
  simp only at hrow n1 n2 n3 n4 b1 b2 hs'
  refine ⟨_, _, resolveEraYear_era _ _ _ _ _ _ _ hrow ?_, by omega, ?_⟩
  · cases next with
    | none => exact contains_from_one (by omega)
    | some nx =>
      have := (ymdLe_false_iff _ _).mp (hn nx rfl)
      exact contains_one_to (hi := nx.1 - start.1 + 1) (by omega)
  · have e : start.1 + (y - start.1 + 1) - 1 = y := by omega
    have h12 : ¬ m.toNat > 12 := by have := hv.2.1; omega
    have em : ((m.toNat : Nat) : Int) = m := by have := hv.1; omega
    simp only [fromCodes, japaneseFromCodes, Option.getD_some, n1, n2, n3, n4, hfind, e, em, hs, h12, or_self,
      Bool.false_eq_true, if_false, not_true_eq_false]
    cases next with
    | none => simpa using tryNewIso_of_valid y m d hv
    | some nx => simpa [hn nx rfl] using tryNewIso_of_valid y m d hv

theorem era_route_japanese (y m d : Int) (hv : Valid y m d) (hy : -271821 ≤ y ∧ y ≤ 275760) :
    EraRouteOk .japanese (yearInfo .japanese y m d).1 (yearInfo .japanese y m d).2.1 ⟨m.toNat, false⟩ d ⟨y, m, d⟩ := by
  have ht := tryNewIso_of_valid y m d hv
  have h12 : ¬ m.toNat > 12 := by have := hv.2.1; omega
  simp only [yearInfo]
  -- a modern era from its first day on; before 1868, `bce` up to year 0 and `ce` from year 1
  rcases japaneseEraYear_cases y m d with ⟨code, start, next, hr, hs, hn, ea⟩ | ⟨a1, a2, ea⟩ | ⟨a1, a2, ea⟩ <;>
    simp only [ea]
  · exact era_route_japanese_modern hr y m d hv hy.2 hs hn
  · exact ⟨_, _, resolveEraYear_era _ "bce" (1 - y) ⟨"japanese-inverse", some 1, none⟩ _ _ _ (by decide +kernel)
      (contains_from_one (by omega)), by omega,
      by simp [fromCodes, japaneseFromCodes, h12, show ¬ 1 - y ≤ 0 by omega, Int.sub_sub_self, ht]⟩
  · have b1 := (ymdLe_false_iff _ _).mp a1
    simp only at b1
    exact ⟨_, _, resolveEraYear_era _ "ce" y ⟨"japanese", some 1, some 1868⟩ _ _ _ (by decide +kernel)
      (contains_one_to (by omega)), by omega,
      by simp [fromCodes, japaneseFromCodes, h12, show ¬ y ≤ 0 by omega, ht]⟩

/-- The era route for every modelled non-ISO calendar: outside `japanese` it is the year route. -/
theorem era_route (cal : CalId) (hne : cal ≠ .iso8601) (iso : IsoDate) (hr : InRange iso) (f : CalFields)
    (hf : fields cal iso = some f) : EraRouteOk cal f.era f.eraYear f.monthCode f.day iso := by
  have hy := hr.year
  by_cases hj : cal = .japanese
  · subst hj
    rcases fields_cases hf with ⟨_, rfl⟩ | ⟨c, hc, _⟩
    · exact era_route_japanese _ _ _ hr.1 hy
    · cases hc
  · have hl := fromCodes_fields cal hne iso hr (fun h => absurd h hj) f hf
    rcases fields_cases hf with ⟨_, rfl⟩ | ⟨c, hc, rfl⟩
    · exact era_route_of_year_route cal hj _ _ _ (by omega) _ _ iso hl
    · exact era_route_of_year_route cal hj _ _ _ (arith_year_bound cal c hc _ hr.2) _ _ iso hl

end Cal
end TemporalModel
