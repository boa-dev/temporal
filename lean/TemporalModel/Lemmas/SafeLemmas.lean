/-
  Lemmas/SafeLemmas.lean — every modelled operation is `Safe` (never a panic, never an assertion error).  What a proof
  says beyond `simp only [f, safe]` (SafeBase) is why a panic site of `f` is not reached.
-/
import TemporalModel.Lemmas.SafeBase
import TemporalModel.Lemmas.OptionLemmas
import TemporalModel.Model.Relative
import TemporalModel.Model.Partial
import TemporalModel.Lemmas.LoopLemmas
import TemporalModel.Lemmas.MergeLemmas
namespace TemporalModel
open Out

@[safe] theorem incrementTryNew_safe (i : Int) : (incrementTryNew i).Safe := by
  simp only [incrementTryNew, safe]
@[safe] theorem incrementValidate_safe (i d : Int) (b : Bool) : (incrementValidate i d b).Safe := by
  simp only [incrementValidate, safe]
@[safe] theorem TUnit.maxRoundingIncrement_safe (u : TUnit) : u.maxRoundingIncrement.Safe := by
  cases u <;> exact Out.safe_ok _
@[safe] theorem UnitGroup.validateUnit_safe (g : UnitGroup) (u e : Option TUnit) : (g.validateUnit u e).Safe := by
  unfold UnitGroup.validateUnit; split <;> split <;> simp only [safe]
@[safe] theorem UnitGroup.validateRequiredUnit_safe (g : UnitGroup) (u e : Option TUnit) : (g.validateRequiredUnit u e).Safe := by
  cases u <;> simp only [UnitGroup.validateRequiredUnit, safe]
@[safe] theorem fromInstantOptions_safe (o : RawOptions) : (fromInstantOptions o).Safe := by
  simp only [fromInstantOptions, safe]
  intro a _; split <;> simp only [safe]
@[safe] theorem fromDatetimeOptions_safe (o : RawOptions) : (fromDatetimeOptions o).Safe := by
  simp only [fromDatetimeOptions, safe]
@[safe] theorem checkIncrement_safe (s : TUnit) (i : Int) : (checkIncrement s i).Safe := by
  simp only [checkIncrement, safe]
@[safe] theorem fromDiffSettings_safe (o : RawOptions) (since : Bool) (g : UnitGroup) (a b : TUnit) :
    (fromDiffSettings o since g a b).Safe := by
  simp only [fromDiffSettings, safe]
@[safe] theorem fromDurationOptions_safe (o : RawOptions) (e : TUnit) : (fromDurationOptions o e).Safe := by
  simp only [fromDurationOptions, safe]
@[safe] theorem toStringResolve_safe (p : Precision) (s : Option TUnit) (m : Option RMode) : (toStringResolve p s m).Safe := by
  unfold toStringResolve
  cases s with
  | some u => cases u <;> simp only [safe]
  | none => dsimp only; split <;> simp only [safe]

@[safe] theorem IsoTime.round_safe (t : IsoTime) (r : Resolved) : (t.round r).Safe := by
  unfold IsoTime.round
  cases hs : r.smallest <;> simp only [IsoTime.roundQuantity, TUnit.asNanoseconds, safe]
@[safe] theorem plainTimeTryNew_safe (h m s ms us ns : Int) : (plainTimeTryNew h m s ms us ns).Safe := by
  simp only [plainTimeTryNew, safe]
@[safe] theorem plainTimeRound_safe (t : IsoTime) (u : TUnit) (i : Int) (m : Option RMode) : (plainTimeRound t u i m).Safe := by
  simp only [plainTimeRound, safe]
@[safe] theorem instantTryNew_safe (n : Int) : (instantTryNew n).Safe := by
  simp only [instantTryNew, safe]
@[safe] theorem roundInstant_safe (n : Int) (r : Resolved) : (roundInstant n r).Safe := by
  unfold roundInstant
  cases hs : r.smallest <;> simp only [TUnit.asNanoseconds, safe]
@[safe] theorem instantRound_safe (n : Int) (o : RawOptions) : (instantRound n o).Safe := by
  simp only [instantRound, safe]

-- utils.rs: both helpers equal their closed forms (GregorianLemmas), so neither panic arm is reached
@[safe] theorem mathematicalDaysInYear_safe (y : Int) : (mathematicalDaysInYear y).Safe := by
  rw [mathematicalDaysInYear_eq]; exact Out.safe_ok _

theorem isoDaysInMonth_safe (y m : Int) (hm1 : 1 ≤ m) (hm12 : m ≤ 12) : (isoDaysInMonth y m).Safe := by
  rw [isoDaysInMonth_eq y m hm1 hm12]; exact Out.safe_ok _

@[safe] theorem IsoDate.regulate_safe (y m d : Int) (ov : Overflow) : (IsoDate.regulate y m d ov).Safe := by
  cases ov
  · rw [IsoDate.regulate_constrain]; exact Out.safe_ok _
  · simp only [IsoDate.regulate_reject, safe]
@[safe] theorem IsoDate.newWithOverflow_safe (y m d : Int) (ov : Overflow) : (IsoDate.newWithOverflow y m d ov).Safe := by
  simp only [IsoDate.newWithOverflow, safe]
@[safe] theorem IsoDateTime.new_safe (d : IsoDate) (t : IsoTime) : (IsoDateTime.new d t).Safe := by
  simp only [IsoDateTime.new, safe]
@[safe] theorem asNanoseconds_safe (dt : IsoDateTime) : dt.asNanoseconds.Safe := by
  simp only [IsoDateTime.asNanoseconds, safe]
@[safe] theorem IsoDateTime.utcEpochNs_safe (dt : IsoDateTime) : dt.utcEpochNs.Safe := Out.safe_ok _
@[safe] theorem IsoDateTime.fromEpochNanos_safe (n off : Int) : (IsoDateTime.fromEpochNanos n off).Safe := by
  simp only [IsoDateTime.fromEpochNanos, safe]
  omega  -- the assertion `micros < 1000`
@[safe] theorem plainDateTryNew_safe (y m d : Int) : (plainDateTryNew y m d).Safe := by
  simp only [plainDateTryNew, safe]
@[safe] theorem plainDateAddDays_safe (d : IsoDate) (k : Int) : (plainDateAddDays d k).Safe := by
  simp only [plainDateAddDays, safe]

@[safe] theorem Dur.new_safe (d : Dur) : (Dur.new d).Safe := by
  simp only [Dur.new, safe]
@[safe] theorem normChecked_safe (x : Int) : (normChecked x).Safe := by
  simp only [normChecked, safe]
theorem timeFromNormalized_safe (n : Int) (L : TUnit) (h : L ≠ .auto) : (timeFromNormalized n L).Safe := by
  unfold timeFromNormalized
  cases hb : balanceDepth L with
  | some k => simp only [safe]
  | none => cases L with  -- only `auto` has no depth
    | auto => exact absurd rfl h
    | _ => cases hb
-- cited by no proof: the instance the simp set needs for `plainDateAdd` and `yearMonthAdd`, which balance up to days
@[safe] theorem timeFromNormalized_day_safe (n : Int) : (timeFromNormalized n .day).Safe :=
  timeFromNormalized_safe n .day (by decide)
@[safe] theorem Dur.add_safe (a b : Dur) : (a.add b).Safe := by
  simp only [Dur.add, safe,
    timeFromNormalized_safe _ _ (TUnit.max_ne_auto _ _ (Or.inl (Dur.defaultLargestUnit_ne_auto a)))]
@[safe] theorem Dur.subtract_safe (a b : Dur) : (a.subtract b).Safe := Dur.add_safe a b.negated
@[safe] theorem Dur.compareNoRel_safe (a b : Dur) : (a.compareNoRel b).Safe := by
  simp only [Dur.compareNoRel, safe]
@[safe] theorem Dur.totalNoRel_safe (d : Dur) (u : TUnit) : (d.totalNoRel u).Safe := by
  simp only [Dur.totalNoRel, safe]
  intro _; split <;> simp only [safe]

theorem normRound_safe (n days : Int) (o : Resolved) (h : o.smallest.asNanoseconds.isSome) : (normRound n days o).Safe := by
  unfold normRound
  cases hs : o.smallest with
  | auto | week | month | year => rw [hs] at h; cases h  -- the assertion arm; `h : none.isSome`
  | _ => simp only [TUnit.asNanoseconds, safe]

@[safe] theorem Dur.roundNoRel_safe (d : Dur) (raw : RawOptions) : (d.roundNoRel raw).Safe := by
  simp only [Dur.roundNoRel, Dur.roundNoRelSlow, safe]
  intro o ho
  obtain ⟨hL, hS, hlt⟩ := fromDurationOptions_ok ho
  simp only [timeFromNormalized_safe _ _ hL, safe]
  exact fun _ hcal => ⟨fun hsc => hcal (Or.inr (TUnit.isCalendarUnit_of_not_lt hlt hsc)),
    fun hsc _ _ => normRound_safe _ _ _ (TUnit.asNanoseconds_isSome hS hsc)⟩

@[safe] theorem plainTimeAdd_safe (t : IsoTime) (d : Dur) : (plainTimeAdd t d).Safe := by
  simp only [plainTimeAdd, safe]
@[safe] theorem plainTimeSubtract_safe (t : IsoTime) (d : Dur) : (plainTimeSubtract t d).Safe := plainTimeAdd_safe _ _
@[safe] theorem instantAdd_safe (n : Int) (d : Dur) : (instantAdd n d).Safe := by
  simp only [instantAdd, safe]
@[safe] theorem instantSubtract_safe (n : Int) (d : Dur) : (instantSubtract n d).Safe := by
  simp only [instantSubtract, safe]
@[safe] theorem instantFromEpochMs_safe (n : Int) : (instantFromEpochMs n).Safe := instantTryNew_safe _

@[safe] theorem plainTimeDiff_safe (since : Bool) (a b : IsoTime) (raw : RawOptions) : (plainTimeDiff since a b raw).Safe := by
  simp only [plainTimeDiff, safe]
  intro o ho
  simp only [timeFromNormalized_safe _ _ (fromDiffSettings_ok ho (by decide)).1,
    normRound_safe _ _ _ (fromDiffSettings_time_asNanoseconds ho (by decide)), safe]

@[safe] theorem instantDiff_safe (since : Bool) (a b : Int) (raw : RawOptions) : (instantDiff since a b raw).Safe := by
  simp only [instantDiff, safe]
  intro o ho
  simp only [timeFromNormalized_safe _ _ (fromDiffSettings_ok ho (by decide)).1,
    normRound_safe _ _ _ (fromDiffSettings_time_asNanoseconds ho (by decide)), safe]

@[safe] theorem asDateValue_safe (x : Int) : (asDateValue x).Safe := by
  simp only [asDateValue, safe]
@[safe] theorem balanceIsoYearMonthChecked_safe (y m : Int) : (balanceIsoYearMonthChecked y m).Safe := by
  simp only [balanceIsoYearMonthChecked, safe]
@[safe] theorem IsoDate.addDateDuration_safe (d : IsoDate) (y m w dd : Int) (ov : Overflow) : (d.addDateDuration y m w dd ov).Safe := by
  simp only [IsoDate.addDateDuration, safe]
@[safe] theorem plainDateAdd_safe (d : IsoDate) (du : Dur) (ov : Overflow) : (plainDateAdd d du ov).Safe := by
  simp only [plainDateAdd, safe]
@[safe] theorem plainDateSubtract_safe (d : IsoDate) (du : Dur) (ov : Overflow) : (plainDateSubtract d du ov).Safe :=
  plainDateAdd_safe _ _ _

/-- `diff_iso_date` never panics: its loops terminate (LoopLemmas) and everything else is range-checked. -/
theorem IsoDate.diffIsoDate_safe (a b : IsoDate) (L : TUnit) (ha : MonthOk a) (hb : MonthOk b) : (a.diffIsoDate b L).Safe := by
  simp only [IsoDate.diffIsoDate, safe]
  intro hs0
  obtain ⟨years, months, hy, hm⟩ := IsoDate.diffIsoDate_loops_terminate a b ha hb (by omega : a.cmp b ≠ 0)
  rw [hy]; dsimp only; rw [hm]; dsimp only
  split
  · next h =>  -- the panic arm, `ym = none`: with `hy` and `hm` each of the three branches of `ym` is a `some`
    split at h
    · split at h <;> cases h
    · cases h
  · simp only [safe]

theorem plainDateInternalDiff_safe (a b : IsoDate) (L : TUnit) (ha : MonthOk a) (hb : MonthOk b) :
    (plainDateInternalDiff a b L).Safe := by
  simp only [plainDateInternalDiff, IsoDate.diffIsoDate_safe a b L ha hb, safe]

@[safe] theorem plainDateTimeTryNew_safe (y m d h mi s ms us ns : Int) : (plainDateTimeTryNew y m d h mi s ms us ns).Safe := by
  simp only [plainDateTimeTryNew, safe]
@[safe] theorem IsoDateTime.addDateDuration_safe (dt : IsoDateTime) (du : Dur) (ov : Overflow) : (dt.addDateDuration du ov).Safe := by
  simp only [IsoDateTime.addDateDuration, safe]
@[safe] theorem plainDateTimeAdd_safe (dt : IsoDateTime) (du : Dur) (ov : Overflow) : (plainDateTimeAdd dt du ov).Safe := by
  simp only [plainDateTimeAdd, safe]
@[safe] theorem plainDateTimeSubtract_safe (dt : IsoDateTime) (du : Dur) (ov : Overflow) : (plainDateTimeSubtract dt du ov).Safe :=
  plainDateTimeAdd_safe _ _ _
@[safe] theorem plainDateTimeRound_safe (dt : IsoDateTime) (raw : RawOptions) : (plainDateTimeRound dt raw).Safe := by
  simp only [plainDateTimeRound, safe]

theorem dtAddDateDuration_monthOk {dt : IsoDateTime} {du : Dur} {ov : Overflow} {r : IsoDateTime}
    (h : dt.addDateDuration du ov = .ok r) : MonthOk r.date := by
  have : (dt.addDateDuration du ov).Ensures (MonthOk ·.date) := by
    simp only [IsoDateTime.addDateDuration, ensures]
    exact fun _ _ _ _ h => (plainDateAdd_inRange _ h).monthOk
  exact this r h

theorem IsoDateTime.diff_safe (a b : IsoDateTime) (L : TUnit) (ha : MonthOk a.date) : (a.diff b L).Safe := by
  simp only [IsoDateTime.diff, safe]
  intro _ _ _ _ h2
  simp only [plainDateInternalDiff_safe _ _ _ ha (plainDateTryNew_inRange _ h2).monthOk, safe]

theorem durFromNormalized_safe (date : Dur) (n : Int) (L : TUnit) (h : L ≠ .auto) : (durFromNormalized date n L).Safe := by
  simp only [durFromNormalized, timeFromNormalized_safe _ _ h, safe]

@[safe] theorem addDateToDt_safe (dt : IsoDateTime) (d : Dur) : (addDateToDt dt d).Safe := IsoDateTime.addDateDuration_safe _ _ _

theorem nudgeBracket_safe (sign : Int) (dt : IsoDateTime) (date : Dur) (o : Resolved)
    (hc : o.smallest.isDateUnit = true) : (nudgeBracket sign dt date o).Safe := by
  unfold nudgeBracket
  cases hs : o.smallest with
  | year | month | day => exact Out.safe_ok _
  | week =>  -- the only bracket that calls `plainDateInternalDiff`; both its dates come from `plainDateTryNew`
    simp only [safe]
    exact fun _ _ _ _ _ h1 _ h2 => plainDateInternalDiff_safe _ _ _ (plainDateTryNew_inRange _ h1).monthOk (plainDateTryNew_inRange _ h2).monthOk
  | _ => rw [hs] at hc; cases hc

theorem nudgeCalendarUnit_safe (sign destNs : Int) (dt : IsoDateTime) (date : Dur) (o : Resolved)
    (hc : o.smallest.isDateUnit = true) : (nudgeCalendarUnit sign destNs dt date o).Safe := by
  simp only [nudgeCalendarUnit, nudgeBracket_safe _ _ _ _ hc, safe]

/-- A successful calendar nudge always carries its bracket data. -/
theorem nudgeCalendarUnit_parts {sign destNs : Int} {dt : IsoDateTime} {date : Dur} {o : Resolved} :
    (nudgeCalendarUnit sign destNs dt date o).Ensures (·.totalParts.isSome) := by
  simp only [nudgeCalendarUnit, Option.isSome_some, ensures]

theorem nudgeToDayOrTime_safe (destNs : Int) (date : Dur) (norm : Int) (o : Resolved)
    (h : o.smallest.asNanoseconds.isSome) : (nudgeToDayOrTime destNs date norm o).Safe := by
  unfold nudgeToDayOrTime
  cases hl : o.smallest.asNanoseconds with
  | none => rw [hl] at h; cases h
  | some len => simp only [safe]

theorem bubbleLoop_safe (sign nudgeNs : Int) (dt : IsoDateTime) (largest : TUnit) :
    ∀ (fuel : Nat) (unit : TUnit) (d : Dur), (unit.isCalendarUnit = true ∨ unit = .auto) →
      (bubbleLoop sign nudgeNs dt largest fuel unit d).Safe := by
  intro fuel
  induction fuel with
  | zero => intro _ _ _; exact Out.safe_ok _
  | succ n ih =>
    intro unit d hu
    -- `succ` keeps the invariant `hu`, and `hu` keeps `unit` off the `panic` arm of the `match` (the time units)
    have hsucc : unit ≠ .auto → unit.succ.isCalendarUnit = true ∨ unit.succ = .auto := by
      revert hu; cases unit <;> decide
    simp only [bubbleLoop, safe]
    intro hna
    have hs := hsucc fun h => hna (.inl h)
    refine ⟨fun _ => ih _ _ hs, fun _ => ⟨?_, fun _ _ _ _ _ _ _ => ih _ _ hs⟩⟩
    cases unit with
    | year | month | week | day => exact Dur.new_safe _
    | auto => exact absurd (.inl rfl) hna
    | _ => exact absurd hu (by decide)

theorem bubbleRelativeDuration_safe (sign nudgeNs : Int) (dt : IsoDateTime) (date : Dur) (norm : Int) (L S : TUnit)
    (hS : S.isDateUnit = true) : (bubbleRelativeDuration sign nudgeNs dt date norm L S).Safe := by
  simp only [bubbleRelativeDuration, safe]
  refine fun _ => bubbleLoop_safe _ _ _ _ _ _ _ ?_
  cases S with
  | day | week | month => exact .inl rfl
  | year => exact .inr rfl
  | _ => cases hS

theorem roundRelativeDuration_safe (date : Dur) (norm destNs : Int) (dt : IsoDateTime) (o : Resolved)
    (hS : o.smallest ≠ .auto) : (roundRelativeDuration date norm destNs dt o).Safe := by
  simp only [roundRelativeDuration, bubbleRelativeDuration_safe _ _ _ _ _ _ _ (TUnit.max_day_isDateUnit _), safe]
  exact ⟨fun hc => nudgeCalendarUnit_safe _ _ _ _ _ (TUnit.isDateUnit_of_isCalendarUnit hc),
    fun hc => nudgeToDayOrTime_safe _ _ _ _ (TUnit.asNanoseconds_isSome hS hc)⟩

theorem diffDtWithRounding_safe (a b : IsoDateTime) (o : Resolved) (ha : MonthOk a.date) (hS : o.smallest ≠ .auto) :
    (diffDtWithRounding a b o).Safe := by
  simp only [diffDtWithRounding, IsoDateTime.diff_safe _ _ _ ha, roundRelativeDuration_safe _ _ _ _ _ hS, safe]

theorem plainDateTimeDiffFull_safe (since : Bool) (a b : IsoDateTime) (raw : RawOptions) (ha : MonthOk a.date) :
    (plainDateTimeDiffFull since a b raw).Safe := by
  simp only [plainDateTimeDiffFull, safe]
  intro o ho
  obtain ⟨hL, hS, _⟩ := fromDiffSettings_ok ho (by decide)
  simp only [diffDtWithRounding_safe _ _ _ ha hS, durFromNormalized_safe _ _ _ hL, safe]

theorem plainDateDiffFull_safe (since : Bool) (a b : IsoDate) (raw : RawOptions) (ha : MonthOk a) (hb : MonthOk b) :
    (plainDateDiffFull since a b raw).Safe := by
  simp only [plainDateDiffFull, safe]
  intro o ho
  obtain ⟨_, hS, _⟩ := fromDiffSettings_ok ho (by decide)
  simp only [plainDateInternalDiff_safe _ _ _ ha hb, roundRelativeDuration_safe _ _ _ _ _ hS,
    durFromNormalized_safe _ _ .day (by decide), safe]

theorem yearMonthDiffFull_safe (since : Bool) (a b : IsoDate) (raw : RawOptions) (ha : MonthOk a) (hb : MonthOk b) :
    (yearMonthDiffFull since a b raw).Safe := by
  simp only [yearMonthDiffFull, safe]
  intro _ o ho
  obtain ⟨_, hS, _⟩ := fromDiffSettings_ok ho (by decide)
  simp only [IsoDate.diffIsoDate_safe ⟨a.year, a.month, 1⟩ ⟨b.year, b.month, 1⟩ _ ha hb, roundRelativeDuration_safe _ _ _ _ _ hS,
    durFromNormalized_safe _ _ .day (by decide), safe]

theorem Dur.roundRelPlainDate_safe (d : Dur) (raw : RawOptions) (rel : IsoDate) (hr : MonthOk rel) :
    (d.roundRelPlainDate raw rel).Safe := by
  simp only [Dur.roundRelPlainDate, safe]
  intro o ho
  obtain ⟨hL, hS, _⟩ := fromDurationOptions_ok ho
  simp only [durFromNormalized_safe _ _ _ hL, safe]
  intro _ _ _ _ _ _ _ h1
  obtain ⟨_, rfl⟩ := IsoDateTime.new_eq_ok.mp h1
  simp only [diffDtWithRounding_safe ⟨rel, _⟩ _ _ hr hS, safe]

theorem totalRelativeDuration_safe (date : Dur) (norm destNs : Int) (dt : IsoDateTime) (u : TUnit) :
    (totalRelativeDuration date norm destNs dt u).Safe := by
  simp only [totalRelativeDuration, safe]
  refine ⟨fun hc => ⟨nudgeCalendarUnit_safe _ _ _ _ _ (TUnit.isDateUnit_of_isCalendarUnit hc), fun nr hn => ?_⟩,
    fun _ _ _ => ?_⟩
  · have : nr.totalParts.isSome := nudgeCalendarUnit_parts nr hn
    split
    · exact Out.safe_pure _
    · next hp => rw [hp] at this; cases this
  · split <;> simp only [safe]

theorem diffDtWithTotal_safe (a b : IsoDateTime) (u : TUnit) (ha : MonthOk a.date) : (diffDtWithTotal a b u).Safe := by
  simp only [diffDtWithTotal, IsoDateTime.diff_safe _ _ _ ha, totalRelativeDuration_safe, safe]

theorem Dur.totalRelPlainDate_safe (d : Dur) (u : TUnit) (rel : IsoDate) (hr : MonthOk rel) : (d.totalRelPlainDate u rel).Safe := by
  simp only [Dur.totalRelPlainDate, diffDtWithTotal_safe ⟨rel, IsoTime.midnight⟩ _ _ hr, safe]

@[safe] theorem dateDurationDays_safe (d : Dur) (rel : IsoDate) : (dateDurationDays d rel).Safe := by
  simp only [dateDurationDays, safe]
@[safe] theorem Dur.compareRelPlainDate_safe (a b : Dur) (rel : IsoDate) : (a.compareRelPlainDate b rel).Safe := by
  simp only [Dur.compareRelPlainDate, safe]

@[safe] theorem monthToMonthCode_safe (m : Int) : (monthToMonthCode m).Safe := by
  simp only [monthToMonthCode, safe]
@[safe] theorem MonthCode.validateIso_safe (c : MonthCode) : c.validateIso.Safe := by
  simp only [MonthCode.validateIso, safe]
@[safe] theorem PartialDate.withFallback_safe (p : PartialDate) (y m d : Int) (b : Bool) : (p.withFallback y m d b).Safe := by
  simp only [PartialDate.withFallback, safe]
  split <;> simp only [safe]
@[safe] theorem eraYearIso_safe (p : PartialDate) : (eraYearIso p).Safe := by
  unfold eraYearIso; split <;> simp only [safe]
@[safe] theorem resolveIsoMonth_safe (p : PartialDate) (ov : Overflow) : (resolveIsoMonth p ov).Safe := by
  simp only [resolveIsoMonth, resolveIsoMonthCode, safe]
  split <;> simp only [safe]
@[safe] theorem resolveDay_safe (d : Option Int) (b : Bool) : (resolveDay d b).Safe := by
  simp only [resolveDay, safe]
  intro _; split <;> simp only [safe]

@[safe] theorem resolvedFieldsIso_safe (p : PartialDate) (ov : Overflow) (rt : ResolutionType) : (resolvedFieldsIso p ov rt).Safe := by
  simp only [resolvedFieldsIso, safe]
  intro _ _ c hc _ _
  have hm := resolveIsoMonth_valid _ hc
  simp only [constrainIsoDay_eq _ _ _ hm.1 hm.2, isoDaysInMonth_eq _ _ hm.1 hm.2, safe]

@[safe] theorem dateFromPartial_safe (p : PartialDate) (ov : Overflow) : (dateFromPartial p ov).Safe := by
  simp only [dateFromPartial, safe]
@[safe] theorem plainDateFromPartial_safe (p : PartialDate) (ov : Option Overflow) : (plainDateFromPartial p ov).Safe := by
  simp only [plainDateFromPartial, safe]
@[safe] theorem plainDateWith_safe (r : IsoDate) (p : PartialDate) (ov : Option Overflow) : (plainDateWith r p ov).Safe := by
  simp only [plainDateWith, safe]
@[safe] theorem isoTimeNew_safe (h mi s ms us ns : Int) (ov : Overflow) : (isoTimeNew h mi s ms us ns ov).Safe := by
  cases ov <;> simp only [isoTimeNew, safe]
@[safe] theorem isoTimeWith_safe (t : IsoTime) (p : PartialTime) (ov : Overflow) : (isoTimeWith t p ov).Safe := by
  simp only [isoTimeWith, safe]
@[safe] theorem plainTimeFromPartial_safe (p : PartialTime) (ov : Option Overflow) : (plainTimeFromPartial p ov).Safe := by
  simp only [plainTimeFromPartial, safe]
@[safe] theorem plainTimeWith_safe (t : IsoTime) (p : PartialTime) (ov : Option Overflow) : (plainTimeWith t p ov).Safe := by
  simp only [plainTimeWith, safe]
@[safe] theorem plainDateTimeFromPartial_safe (pd : PartialDate) (pt : PartialTime) (ov : Option Overflow) :
    (plainDateTimeFromPartial pd pt ov).Safe := by
  simp only [plainDateTimeFromPartial, safe]
@[safe] theorem plainDateTimeWith_safe (r : IsoDateTime) (pd : PartialDate) (pt : PartialTime) (ov : Option Overflow) :
    (plainDateTimeWith r pd pt ov).Safe := by
  simp only [plainDateTimeWith, safe]
@[safe] theorem yearMonthNew_safe (y m : Int) (rd : Option Int) (ov : Overflow) : (yearMonthNew y m rd ov).Safe := by
  simp only [yearMonthNew, safe]
@[safe] theorem yearMonthFromPartial_safe (p : PartialDate) (ov : Overflow) : (yearMonthFromPartial p ov).Safe := by
  simp only [yearMonthFromPartial, safe]
@[safe] theorem yearMonthWith_safe (r : IsoDate) (p : PartialDate) (ov : Option Overflow) : (yearMonthWith r p ov).Safe := by
  simp only [yearMonthWith, safe]
@[safe] theorem partialOfYearMonth_safe (r : IsoDate) : (partialOfYearMonth r).Safe := by
  simp only [partialOfYearMonth, safe]
@[safe] theorem monthDayNew_safe (m d : Int) (ov : Overflow) (ry : Option Int) : (monthDayNew m d ov ry).Safe := by
  simp only [monthDayNew, safe]
@[safe] theorem dateToYearMonth_safe (r : IsoDate) : (dateToYearMonth r).Safe := by
  simp only [dateToYearMonth, safe]
@[safe] theorem dateToMonthDay_safe (r : IsoDate) : (dateToMonthDay r).Safe := by
  simp only [dateToMonthDay, safe]
@[safe] theorem yearMonthAdd_safe (r : IsoDate) (du : Dur) (ov : Overflow) : (yearMonthAdd r du ov).Safe := by
  simp only [yearMonthAdd, safe]
@[safe] theorem yearMonthSubtract_safe (r : IsoDate) (du : Dur) (ov : Overflow) : (yearMonthSubtract r du ov).Safe :=
  yearMonthAdd_safe _ _ _

end TemporalModel
