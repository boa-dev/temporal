/-
  Lemmas/CalLemmas.lean — one theorem for every calendar given by year starts and month lengths (`ACal`): if the
  year lengths add up and the year-of-day formula brackets the day, then day ↔ (year, month, day) are mutually
  inverse, every produced date exists, and the next day is the calendar successor.  Then the six day-count
  calendars are shown to satisfy the hypotheses, by four lemmas (Coptic-like, Islamic-like, Indian, Persian).
-/
import TemporalModel.Model.Calendar
import TemporalModel.Lemmas.GregorianLemmas
namespace TemporalModel
namespace Cal
open Greg

structure ACal.Lawful (c : ACal) : Prop where
  months_pos : ∀ y, 1 ≤ c.months y
  dim_pos : ∀ y m, 1 ≤ m → m ≤ c.months y → 1 ≤ c.dim y m
  year_len : ∀ y, c.yearStart (y + 1) = c.yearStart y + c.diy y
  yearOf_spec : ∀ n, c.yearStart (c.yearOf n) ≤ n ∧ n < c.yearStart (c.yearOf n + 1)

variable {c : ACal}

theorem before_succ (c : ACal) (y : Int) (k : Nat) : c.before y (k + 1) = c.before y k + c.dim y (k + 1) := rfl

theorem before_pred (c : ACal) (y : Int) (m : Nat) (hm : 1 ≤ m) :
    c.before y m = c.before y (m - 1) + c.dim y m := by
  obtain ⟨k, rfl⟩ : ∃ k, m = k + 1 := ⟨m - 1, by omega⟩
  rw [Nat.add_sub_cancel, before_succ]

theorem before_le (h : c.Lawful) (y : Int) {j k : Nat} (hjk : j ≤ k) (hk : k ≤ c.months y) :
    c.before y j ≤ c.before y k := by
  induction k with
  | zero => rw [Nat.le_zero.mp hjk]; exact Int.le_refl _
  | succ k ih =>
    by_cases e : j = k + 1
    · rw [e]; exact Int.le_refl _
    · have h1 := ih (by omega) (by omega)
      have h2 := h.dim_pos y (k + 1) (by omega) hk
      rw [before_succ]; omega

theorem before_nonneg (h : c.Lawful) (y : Int) (k : Nat) (hk : k ≤ c.months y) : 0 ≤ c.before y k :=
  before_le h y (Nat.zero_le k) hk

theorem diy_pos (h : c.Lawful) (y : Int) : 1 ≤ c.diy y := by
  have h1 := h.months_pos y
  have h2 := before_le h y h1 (Nat.le_refl _)
  have h3 := h.dim_pos y 1 (Nat.le_refl _) h1
  have h4 : c.before y 1 = c.dim y 1 := Int.zero_add _
  unfold ACal.diy; omega

theorem yearStart_lt_succ (h : c.Lawful) (y : Int) : c.yearStart y < c.yearStart (y + 1) := by
  have := h.year_len y; have := diy_pos h y; omega

theorem yearStart_le (h : c.Lawful) (a b : Int) (hab : a ≤ b) : c.yearStart a ≤ c.yearStart b := by
  obtain ⟨k, rfl⟩ : ∃ k : Nat, b = a + k := ⟨(b - a).toNat, by omega⟩
  clear hab
  induction k with
  | zero => rw [Int.natCast_zero, Int.add_zero]; exact Int.le_refl _
  | succ k ih =>
    have := yearStart_lt_succ h (a + k)
    rw [show a + ((k + 1 : Nat) : Int) = a + k + 1 by omega]; omega

theorem yearOf_unique (h : c.Lawful) (n y : Int) (h1 : c.yearStart y ≤ n) (h2 : n < c.yearStart (y + 1)) :
    c.yearOf n = y := by
  obtain ⟨s1, s2⟩ := h.yearOf_spec n
  by_cases hlt : c.yearOf n < y
  · have := yearStart_le h (c.yearOf n + 1) y (by omega); omega
  · by_cases hgt : y < c.yearOf n
    · have := yearStart_le h (y + 1) (c.yearOf n) (by omega); omega
    · omega

/-- `k` months are consumed and `r` days left, a day before the end of month `M`; `k + fuel + 1 = M`: the fuel lasts
    to month `M`, where the walk stops without a test. -/
theorem findMonth_spec (c : ACal) (y : Int) (M : Nat) :
    ∀ fuel k (r : Int), k + fuel + 1 = M → 0 ≤ r → r < c.before y M - c.before y k →
      ∃ m d, c.findMonth y fuel k r = (m, d) ∧ k + 1 ≤ m ∧ m ≤ M ∧ 1 ≤ d ∧ d ≤ c.dim y m ∧
        c.before y (m - 1) + (d - 1) = c.before y k + r := by
  intro fuel
  induction fuel with
  | zero =>
    intro k r hk h0 hr
    have e : M = k + 1 := by omega
    subst e
    rw [before_succ] at hr
    exact ⟨_, _, rfl, Nat.le_refl _, Nat.le_refl _, by omega, by omega, by rw [Nat.add_sub_cancel]; omega⟩
  | succ fuel ih =>
    intro k r hk h0 hr
    unfold ACal.findMonth
    by_cases hlt : r < c.dim y (k + 1)
    · rw [if_pos hlt]
      exact ⟨_, _, rfl, Nat.le_refl _, by omega, by omega, by omega, by rw [Nat.add_sub_cancel]; omega⟩
    · rw [if_neg hlt]
      have hb := before_succ c y k
      obtain ⟨m, d, e, a1, a2, a3, a4, a5⟩ := ih (k + 1) (r - c.dim y (k + 1)) (by omega) (by omega) (by omega)
      exact ⟨m, d, e, by omega, a2, a3, a4, by omega⟩

theorem ofDay_spec (h : c.Lawful) (n : Int) :
    c.Valid (c.ofDay n).1 (c.ofDay n).2.1 (c.ofDay n).2.2 ∧
    c.toDay (c.ofDay n).1 (c.ofDay n).2.1 (c.ofDay n).2.2 = n := by
  obtain ⟨s1, s2⟩ := h.yearOf_spec n
  have hl := h.year_len (c.yearOf n)
  have hm := h.months_pos (c.yearOf n)
  obtain ⟨m, d, e, a1, a2, a3, a4, a5⟩ := findMonth_spec c (c.yearOf n) (c.months (c.yearOf n))
    (c.months (c.yearOf n) - 1) 0 (n - c.yearStart (c.yearOf n)) (by omega) (by omega)
    (by unfold ACal.diy at hl; simp only [ACal.before]; omega)
  simp only [ACal.before, Int.zero_add] at a5
  simp only [ACal.Valid, ACal.toDay, ACal.ofDay, e]
  exact ⟨⟨a1, a2, a3, a4⟩, by omega⟩

theorem doy_bounds (h : c.Lawful) (y : Int) (m : Nat) (d : Int) (hv : c.Valid y m d) :
    0 ≤ c.before y (m - 1) ∧ c.before y (m - 1) + d ≤ c.diy y := by
  obtain ⟨h1, h2, _, h4⟩ := hv
  have hp := before_pred c y m h1
  have hle := before_le h y h2 (Nat.le_refl _)
  exact ⟨before_nonneg h y (m - 1) (by omega), by unfold ACal.diy; omega⟩

theorem toDay_bracket (h : c.Lawful) (y : Int) (m : Nat) (d : Int) (hv : c.Valid y m d) :
    c.yearStart y ≤ c.toDay y m d ∧ c.toDay y m d < c.yearStart (y + 1) := by
  have hb := doy_bounds h y m d hv
  have hl := h.year_len y
  have := hv.2.2.1
  unfold ACal.toDay
  constructor <;> omega

theorem toDay_lt_of_month_lt (h : c.Lawful) (y : Int) (m m' : Nat) (d d' : Int) (hv : c.Valid y m d)
    (hv' : c.Valid y m' d') (hm : m < m') : c.toDay y m d < c.toDay y m' d' := by
  have hp := before_pred c y m hv.1
  have hle := before_le h y (j := m) (k := m' - 1) (by omega) (by have := hv'.2.1; omega)
  have := hv.2.2.2; have := hv'.2.2.1
  unfold ACal.toDay; omega

theorem toDay_inj (h : c.Lawful) (y y' : Int) (m m' : Nat) (d d' : Int) (hv : c.Valid y m d) (hv' : c.Valid y' m' d')
    (e : c.toDay y m d = c.toDay y' m' d') : (y, m, d) = (y', m', d') := by
  obtain ⟨b1, b2⟩ := toDay_bracket h y m d hv
  obtain ⟨b1', b2'⟩ := toDay_bracket h y' m' d' hv'
  obtain rfl : y = y' := by rw [← yearOf_unique h _ y b1 b2, e]; exact yearOf_unique h _ y' b1' b2'
  rcases Nat.lt_trichotomy m m' with hm | rfl | hm
  · have := toDay_lt_of_month_lt h y m m' d d' hv hv' hm; omega
  · unfold ACal.toDay at e; congr 2; omega
  · have := toDay_lt_of_month_lt h y m' m d' d hv' hv hm; omega

theorem ofDay_toDay (h : c.Lawful) (y : Int) (m : Nat) (d : Int) (hv : c.Valid y m d) :
    c.ofDay (c.toDay y m d) = (y, m, d) := by
  obtain ⟨hv', e⟩ := ofDay_spec h (c.toDay y m d)
  exact toDay_inj h _ _ _ _ _ _ hv' hv e

theorem next_year (c : ACal) (y : Int) (m : Nat) (d : Int) : (c.next y m d).1 = y ∨ (c.next y m d).1 = y + 1 := by
  unfold ACal.next; split
  · exact .inl rfl
  · split
    · exact .inl rfl
    · exact .inr rfl

theorem next_valid (h : c.Lawful) (y : Int) (m : Nat) (d : Int) (hv : c.Valid y m d) :
    c.Valid (c.next y m d).1 (c.next y m d).2.1 (c.next y m d).2.2 := by
  obtain ⟨h1, h2, h3, h4⟩ := hv
  unfold ACal.next
  split
  · dsimp only; exact ⟨h1, h2, by omega, by omega⟩
  · split
    · dsimp only; exact ⟨by omega, by omega, by omega, h.dim_pos y (m + 1) (by omega) (by omega)⟩
    · dsimp only
      exact ⟨Nat.le_refl _, h.months_pos _, by omega, h.dim_pos (y + 1) 1 (Nat.le_refl _) (h.months_pos _)⟩

theorem toDay_next (h : c.Lawful) (y : Int) (m : Nat) (d : Int) (hv : c.Valid y m d) :
    c.toDay (c.next y m d).1 (c.next y m d).2.1 (c.next y m d).2.2 = c.toDay y m d + 1 := by
  obtain ⟨h1, h2, h3, h4⟩ := hv
  have hp := before_pred c y m h1
  unfold ACal.next
  split
  · unfold ACal.toDay; simp only; omega
  · split
    · unfold ACal.toDay; simp only [Nat.add_sub_cancel]; omega
    · have hl := h.year_len y
      unfold ACal.diy at hl
      have e : m = c.months y := by omega
      subst e
      unfold ACal.toDay; simp only [Nat.sub_self, ACal.before]; omega

theorem ofDay_succ (h : c.Lawful) (n : Int) :
    c.ofDay (n + 1) = c.next (c.ofDay n).1 (c.ofDay n).2.1 (c.ofDay n).2.2 := by
  obtain ⟨hv, ht⟩ := ofDay_spec h n
  have hn := next_valid h _ _ _ hv
  have hd := toDay_next h _ _ _ hv
  rw [ht] at hd
  have := ofDay_toDay h _ _ _ hn
  rw [hd] at this
  exact this

theorem copticLike_diy (e y : Int) : (copticLike e).diy y = if y % 4 = 3 then 366 else 365 := by
  -- `simp` evaluates the month lengths at the literal months and adds them up; likewise below
  simp [ACal.diy, copticLike, ACal.before, copticDim]
  split <;> omega

theorem copticLike_lawful (e : Int) : (copticLike e).Lawful where
  months_pos := fun _ => (by decide : 1 ≤ 13)
  dim_pos := by
    intro y m _ _
    simp only [copticLike, copticDim]; omega
  year_len := by
    intro y
    rw [copticLike_diy]
    simp only [copticLike]
    split <;> omega
  yearOf_spec := by
    intro n
    simp only [copticLike]
    constructor <;> omega

theorem islamicLike_diy (e y : Int) : (islamicLike e).diy y = if islamicLeap y then 355 else 354 := by
  simp [ACal.diy, islamicLike, ACal.before, islamicDim]
  split <;> omega

theorem islamicLike_lawful (e : Int) : (islamicLike e).Lawful where
  months_pos := fun _ => (by decide : 1 ≤ 12)
  dim_pos := by
    intro y m _ _
    simp only [islamicLike, islamicDim]; omega
  year_len := by
    intro y
    rw [islamicLike_diy]
    simp only [islamicLike, islamicLeap, decide_eq_true_eq]
    have e : 3 + 11 * (y + 1) = 14 + 11 * y := by omega
    rw [e]
    split <;> omega
  yearOf_spec := by
    intro n
    simp only [islamicLike]
    constructor <;> omega

theorem indian_diy (y : Int) : indian.diy y = Greg.diy (y + 78) := by
  simp [ACal.diy, indian, ACal.before, indianDim, Greg.diy]
  split <;> omega

theorem indian_lawful : indian.Lawful where
  months_pos := fun _ => (by decide : 1 ≤ 12)
  dim_pos := by
    intro y m _ _
    simp only [indian, indianDim]; omega
  year_len := by
    intro y
    rw [indian_diy]
    simp only [indian]
    rw [show y + 1 + 78 = y + 78 + 1 by omega, yearStart_succ]; omega
  yearOf_spec := by
    intro n
    obtain ⟨b1, b2⟩ := fromDays_year_bracket n
    simp only [indian]
    generalize (NS.ymdFromEpochDays n).1 = gy at *
    -- the year starts on day 81 of a Gregorian year, and the Gregorian year before has at least 365 days
    have s0 := yearStart_succ (gy - 1)
    have d0 := diy_eq (gy - 1)
    have s1 := yearStart_succ gy
    have d1 := diy_eq gy
    rw [Int.sub_add_cancel] at s0
    split
    · rw [show gy - 79 + 78 = gy - 1 by omega, show gy - 79 + 1 + 78 = gy by omega]; constructor <;> omega
    · rw [show gy - 78 + 78 = gy by omega, show gy - 78 + 1 + 78 = gy + 1 by omega]; constructor <;> omega

theorem persian_diy (y : Int) : persian.diy y = if persianLeap y then 366 else 365 := by
  simp [ACal.diy, persian, ACal.before, persianDim]
  split <;> omega

/-- For each year `t` of the table: neither neighbour is in the table, the 33-year rule makes `t` a leap year, and it
    makes `t + 1` a common year. -/
theorem persianTable_facts : ∀ t ∈ persianTable,
    inTable (t - 1) = false ∧ inTable (t + 1) = false ∧ (8 * t + 21) % 33 ≥ 25 ∧ (8 * (t + 1) + 21) % 33 < 25 := by
  decide +kernel

theorem inTable_mem (y : Int) (h : inTable y = true) : y ∈ persianTable :=
  List.contains_iff_mem.mp h

theorem persianCorr_succ (y : Int) : persianCorr (y + 1) = if inTable y then 1 else 0 := by
  unfold persianCorr; rw [Int.add_sub_cancel]

theorem persian33_step (y : Int) :
    persianStart33 (y + 1) = persianStart33 y + 365 + (if (8 * y + 21) % 33 ≥ 25 then 1 else 0) := by
  unfold persianStart33; omega

/-- The 33-year rule gives the year a 366th day exactly when `(8 y + 21) mod 33 ≥ 25`; a year in the table loses
    that day to its successor, which the rule leaves short. -/
theorem persian_year_len (y : Int) : persianStart33 (y + 1) - persianCorr (y + 1) =
    persianStart33 y - persianCorr y + (if persianLeap y then 366 else 365) := by
  rw [persian33_step, persianCorr_succ]
  unfold persianLeap
  by_cases h1 : inTable y = true
  · obtain ⟨a, _, c, _⟩ := persianTable_facts y (inTable_mem y h1)
    rw [if_pos h1, if_pos h1, if_pos c]
    simp only [persianCorr, a, Bool.false_eq_true, if_false]
    omega
  · rw [if_neg h1, if_neg h1]
    by_cases h2 : inTable (y - 1) = true
    · obtain ⟨_, _, _, d⟩ := persianTable_facts (y - 1) (inTable_mem _ h2)
      rw [Int.sub_add_cancel] at d
      rw [if_pos h2, if_neg (by omega)]
      simp only [persianCorr, h2, if_true]
      omega
    · rw [if_neg h2]
      simp only [persianCorr, h2, Bool.false_eq_true, if_false, decide_eq_true_eq]
      -- the two residues add up to 32, since 25 y + 11 + (8 y + 21) = 33 y + 32
      have k : (25 * y + 11) % 33 = 32 - (8 * y + 21) % 33 := by omega
      omega

theorem persian33_bracket (n : Int) :
    persianStart33 (1 + (33 * (n - PERSIAN_EPOCH) + 3) / 12053) ≤ n ∧
    n < persianStart33 (1 + (33 * (n - PERSIAN_EPOCH) + 3) / 12053 + 1) := by
  unfold persianStart33
  constructor <;> omega

theorem persian_lawful : persian.Lawful where
  months_pos := fun _ => (by decide : 1 ≤ 12)
  dim_pos := by
    intro y m _ _
    simp only [persian, persianDim]; omega
  year_len := by
    intro y
    rw [persian_diy]
    exact persian_year_len y
  yearOf_spec := by
    intro n
    simp only [persian]
    obtain ⟨b1, b2⟩ := persian33_bracket n
    generalize 1 + (33 * (n - PERSIAN_EPOCH) + 3) / 12053 = y0 at *
    have s1 := persian33_step y0
    have s2 := persian33_step (y0 + 1)
    have c1 := persianCorr_succ y0
    by_cases hT : inTable y0 = true
    · -- a year of the table: the rule gives it 366 days, the last of which opens the next year
      obtain ⟨a, a', c, d⟩ := persianTable_facts y0 (inTable_mem y0 hT)
      have c0 : persianCorr y0 = 0 := by simp only [persianCorr, a, Bool.false_eq_true, if_false]
      have c2 : persianCorr (y0 + 1 + 1) = 0 := by rw [persianCorr_succ, a']; rfl
      rw [if_pos hT] at c1
      by_cases h365 : n - (persianStart33 y0 - persianCorr y0) = 365
      · rw [if_pos ⟨h365, hT⟩]
        constructor <;> omega
      · rw [if_neg (fun h => h365 h.1)]
        constructor <;> omega
    · rw [if_neg (fun h => hT h.2)]
      rw [if_neg hT] at c1
      have c0 : 0 ≤ persianCorr y0 := by unfold persianCorr; omega
      constructor <;> omega

/-- The day numbers of Temporal's range (`InRange`).  The first is one day before −10⁸: a date is in range when its
    noon passes the limit test (`noon_limits` in DateLemmas). -/
def InTemporalDays (n : Int) : Prop := -100000001 ≤ n ∧ n ≤ 100000000

/- Inside Temporal's range no day-count year reaches ±290000 (the Islamic years come closest: −280804 … 283583), so
   the era years derived from a year (at most `y + 5500`, ethioaa) stay inside the crate's guard of ±300000
   (`era_route_of_year_route`).  The window for `e` covers the four epochs, −716367 … −492148. -/

theorem copticLike_year_bound (e n : Int) (he : -720000 ≤ e ∧ e ≤ -490000) (hn : InTemporalDays n) :
    -290000 ≤ (copticLike e).yearOf n ∧ (copticLike e).yearOf n ≤ 290000 := by
  unfold InTemporalDays at hn
  simp only [copticLike]; constructor <;> omega

theorem islamicLike_year_bound (e n : Int) (he : -720000 ≤ e ∧ e ≤ -490000) (hn : InTemporalDays n) :
    -290000 ≤ (islamicLike e).yearOf n ∧ (islamicLike e).yearOf n ≤ 290000 := by
  unfold InTemporalDays at hn
  simp only [islamicLike]; constructor <;> omega

theorem persian_year_bound (n : Int) (hn : InTemporalDays n) :
    -290000 ≤ persian.yearOf n ∧ persian.yearOf n ≤ 290000 := by
  unfold InTemporalDays at hn
  simp only [persian]
  -- bound the 33-year estimate once; the table moves it by at most one
  generalize hy : 1 + (33 * (n - PERSIAN_EPOCH) + 3) / 12053 = y0
  have hb : -289999 ≤ y0 ∧ y0 ≤ 289999 := by unfold PERSIAN_EPOCH at hy; omega
  split <;> omega

theorem indian_year_bound (n : Int) (hn : InTemporalDays n) :
    -290000 ≤ indian.yearOf n ∧ indian.yearOf n ≤ 290000 := by
  obtain ⟨b1, b2⟩ := fromDays_year_bracket n
  unfold InTemporalDays at hn
  simp only [indian]
  generalize (NS.ymdFromEpochDays n).1 = gy at *
  unfold Greg.yearStart at b1 b2
  split <;> constructor <;> omega

/-- The seven identifiers with a day-count calendar behind them (`apply arith_cases h` leaves a goal for each, named
    after the identifier). -/
theorem arith_cases {P : CalId → ACal → Prop} {cal : CalId} {c : ACal} (h : cal.arith = some c)
    (coptic : P .coptic Cal.coptic) (ethiopic : P .ethiopic Cal.ethiopic) (ethioaa : P .ethioaa Cal.ethiopic)
    (indian : P .indian Cal.indian) (islamicCivil : P .islamicCivil Cal.islamicCivil)
    (islamicTbla : P .islamicTbla Cal.islamicTbla) (persian : P .persian Cal.persian) : P cal c := by
  cases cal <;> cases h <;> assumption

theorem arith_lawful (cal : CalId) (c : ACal) (h : cal.arith = some c) : c.Lawful := by
  apply arith_cases h
  case coptic | ethiopic | ethioaa => exact copticLike_lawful _
  case indian => exact indian_lawful
  case islamicCivil | islamicTbla => exact islamicLike_lawful _
  case persian => exact persian_lawful

theorem arith_year_bound (cal : CalId) (c : ACal) (h : cal.arith = some c) (n : Int) (hn : InTemporalDays n) :
    -290000 ≤ (c.ofDay n).1 ∧ (c.ofDay n).1 ≤ 290000 := by
  apply arith_cases h
  case coptic | ethiopic | ethioaa => exact copticLike_year_bound _ _ (by decide) hn
  case indian => exact indian_year_bound _ hn
  case islamicCivil | islamicTbla => exact islamicLike_year_bound _ _ (by decide) hn
  case persian => exact persian_year_bound _ hn

end Cal
end TemporalModel
