/-
  Lemmas/RoundLemmas.lean — the coded rounder against RoundNumberToIncrement.
  Off the multiples both choose between the two neighbouring multiples; the choice is named once (`RMode.up`, in the
  shape the code makes it) and the spec's nine-row table is checked against it once (`roundSpec_eq_up`). Everything
  else is arithmetic of `lowerMultiple` or a rewrite. Code and spec are both odd under `(x, mode) ↦ (-x, mode.negate)`,
  so they are compared on `0 ≤ x` only.
-/
import TemporalModel.Model.Round
import TemporalModel.Spec.Round
import TemporalModel.Lemmas.PrimLemmas
namespace TemporalModel
open RoundI128

/-- Whether `apply_unsigned_rounding_mode` returns `r2` for a magnitude strictly between `r1` and `r2`:
    `o` compares twice the distance from `r1` with the increment, `even` is the parity of `r1 / inc`. -/
def UMode.up (u : UMode) (even : Bool) (o : Ordering) : Bool :=
  match u with
  | .zero => false
  | .infinity => true
  | .halfZero => o == .gt
  | .halfInfinity => o != .lt
  | .halfEven => o == .gt || (o == .eq && !even)

/-- The same for a signed value between its lower and upper multiple, as the code does it: round the magnitude
    under the mode chosen from the sign. For `x < 0` the magnitude's `r1` is minus the upper multiple, so
    the parity flips, the comparison swaps and "up" becomes "down". -/
def RMode.up (m : RMode) (nonneg even : Bool) (o : Ordering) : Bool :=
  if nonneg then (m.unsigned true).up even o else !(m.unsigned false).up (!even) o.swap

theorem RMode.unsigned_negate (mode : RMode) (b : Bool) :
    mode.negate.unsigned b = mode.unsigned (!b) := by
  cases mode <;> cases b <;> rfl

theorem RMode.up_negate (m : RMode) (p e : Bool) (o : Ordering) :
    m.up (!p) (!e) o.swap = !m.negate.up p e o := by
  cases p <;> simp only [RMode.up, RMode.unsigned_negate, Bool.not_true, Bool.not_false, Bool.not_not,
    Ordering.swap_swap, if_true, if_false, Bool.false_eq_true]

/-- RoundNumberToIncrement makes the code's decision: the nine-row table of the spec against
    `get_unsigned_round_mode` and the five unsigned modes. -/
theorem roundSpec_eq_up (x inc : Int) (mode : RMode) :
    roundSpec x inc mode =
      if x = lowerMultiple x inc then x
      else if mode.up (decide (0 ≤ x)) (decide (lowerMultiple x inc / inc % 2 = 0))
          (compare (2 * (x - lowerMultiple x inc)) inc)
        then lowerMultiple x inc + inc else lowerMultiple x inc := by
  unfold roundSpec
  generalize lowerMultiple x inc = l
  by_cases hx : x = l
  · rw [if_pos hx, if_pos hx]
  · rw [if_neg hx, if_neg hx]
    generalize l / inc = q
    generalize ho : compare (2 * (x - l)) inc = o
    cases o <;> simp only [Int.compare_eq_lt, Int.compare_eq_eq, Int.compare_eq_gt] at ho <;>
      cases mode <;> simp [RMode.up, UMode.up, RMode.unsigned, ho] <;> omega

theorem lowerMultiple_bracket (x inc : Int) (h : 0 < inc) :
    lowerMultiple x inc ≤ x ∧ x < lowerMultiple x inc + inc := by
  have h1 := Int.emod_nonneg x (Int.ne_of_gt h)
  have h2 := Int.emod_lt_of_pos x h
  have h3 := Int.mul_ediv_add_emod x inc
  unfold lowerMultiple; omega

theorem lowerMultiple_ediv (x inc : Int) (h : 0 < inc) : lowerMultiple x inc / inc = x / inc :=
  Int.mul_ediv_cancel_left _ (Int.ne_of_gt h)

theorem lowerMultiple_mul (k inc : Int) (h : 0 < inc) : lowerMultiple (inc * k) inc = inc * k := by
  rw [lowerMultiple, Int.mul_ediv_cancel_left _ (Int.ne_of_gt h)]

theorem lowerMultiple_unique {x inc m : Int} (h : 0 < inc) (h1 : inc * m ≤ x) (h2 : x < inc * m + inc) :
    lowerMultiple x inc = inc * m := by
  have : x = (x - inc * m) + inc * m := by omega
  rw [lowerMultiple, this, Int.add_mul_ediv_left _ _ (Int.ne_of_gt h),
    Int.ediv_eq_zero_of_lt (by omega) (by omega), Int.zero_add]

theorem lowerMultiple_neg {x inc : Int} (h : 0 < inc) (hx : x ≠ lowerMultiple x inc) :
    (-x) / inc = -(x / inc) - 1 ∧ lowerMultiple (-x) inc = -lowerMultiple x inc - inc := by
  have hd : ¬ inc ∣ x := fun ⟨k, hk⟩ => hx (by rw [hk, lowerMultiple_mul k inc h])
  have e : (-x) / inc = -(x / inc) - 1 := by
    rw [Int.neg_ediv, if_neg hd, Int.sign_eq_one_of_pos h]
  refine ⟨e, ?_⟩
  unfold lowerMultiple
  rw [e, Int.mul_sub, Int.mul_neg, Int.mul_one]

theorem roundSpec_mul (k inc : Int) (mode : RMode) (h : 0 < inc) :
    roundSpec (inc * k) inc mode = inc * k := by
  rw [roundSpec_eq_up, if_pos (lowerMultiple_mul k inc h).symm]

theorem roundSpec_neighbour (x inc : Int) (mode : RMode) :
    roundSpec x inc mode = lowerMultiple x inc ∨
    x ≠ lowerMultiple x inc ∧ roundSpec x inc mode = lowerMultiple x inc + inc := by
  rw [roundSpec_eq_up]
  by_cases hx : x = lowerMultiple x inc
  · rw [if_pos hx]; exact .inl hx
  · rw [if_neg hx]; split
    · exact .inr ⟨hx, rfl⟩
    · exact .inl rfl

theorem roundSpec_dvd (x inc : Int) (mode : RMode) : inc ∣ roundSpec x inc mode := by
  rcases roundSpec_neighbour x inc mode with h | ⟨_, h⟩ <;> rw [h, lowerMultiple]
  · exact Int.dvd_mul_right _ _
  · exact Int.dvd_add (Int.dvd_mul_right _ _) (Int.dvd_refl _)

theorem compare_sub_swap (a inc : Int) : compare (2 * inc - a) inc = (compare a inc).swap := by
  generalize ho : compare a inc = o
  cases o <;> simp only [Int.compare_eq_lt, Int.compare_eq_eq, Int.compare_eq_gt] at ho <;>
    simp only [Ordering.swap, Int.compare_eq_lt, Int.compare_eq_eq, Int.compare_eq_gt] <;> omega

theorem roundSpec_neg (x inc : Int) (mode : RMode) (h : 0 < inc) :
    roundSpec (-x) inc mode = - roundSpec x inc mode.negate := by
  by_cases hx : x = lowerMultiple x inc
  · rw [hx, lowerMultiple, ← Int.mul_neg, roundSpec_mul _ inc _ h, roundSpec_mul _ inc _ h, Int.mul_neg]
  · -- the lower multiple of `-x` is minus the upper one of `x`: comparison, parity and sign turn round
    have hb := lowerMultiple_bracket x inc h
    have ⟨hn, hl⟩ := lowerMultiple_neg h hx
    have e1 : 2 * (-x - (-lowerMultiple x inc - inc)) = 2 * inc - 2 * (x - lowerMultiple x inc) := by omega
    have e2 : (0 ≤ -x) = ¬ 0 ≤ x := by
      have : x ≠ 0 := fun h0 => hx (by rw [h0, lowerMultiple, Int.zero_ediv, Int.mul_zero])
      rw [eq_iff_iff]; omega
    have e3 : ((-(x / inc) - 1) % 2 = 0) = ¬ x / inc % 2 = 0 := by rw [eq_iff_iff]; omega
    rw [roundSpec_eq_up, roundSpec_eq_up, if_neg hx, if_neg (by omega), lowerMultiple_ediv _ inc h,
      lowerMultiple_ediv _ inc h, hn, hl, e1, compare_sub_swap]
    simp only [e2, e3, decide_not, RMode.up_negate]
    cases mode.negate.up _ _ _ <;> simp only [Bool.not_true, Bool.not_false, if_true, if_false, Bool.false_eq_true] <;> omega

/-- Which neighbour `roundSpec` picks depends only on the remainder, on the sign and, for `halfEven`, on the parity
    of the quotient. -/
theorem roundSpec_congr (x y inc : Int) (mode : RMode) (h : 0 < inc) (hr : x % inc = y % inc)
    (hsgn : 0 ≤ x ↔ 0 ≤ y) (hpar : mode = .halfEven → (x / inc) % 2 = (y / inc) % 2) :
    roundSpec x inc mode - lowerMultiple x inc = roundSpec y inc mode - lowerMultiple y inc := by
  have hd : y - lowerMultiple y inc = x - lowerMultiple x inc := by
    have := Int.mul_ediv_add_emod x inc
    have := Int.mul_ediv_add_emod y inc
    unfold lowerMultiple; omega
  have hup : ∀ e e' : Bool, (mode = .halfEven → e = e') → ∀ p o, mode.up p e o = mode.up p e' o := by
    intro e e' he p o
    cases mode with
    | halfEven => rw [he rfl]
    | _ => cases p <;> rfl
  rw [roundSpec_eq_up, roundSpec_eq_up, lowerMultiple_ediv _ inc h, lowerMultiple_ediv _ inc h, hd,
    decide_eq_decide.2 hsgn, hup _ _ (fun hm => by rw [hpar hm])]
  generalize mode.up _ _ _ = b
  cases b <;> simp only [if_true, Bool.false_eq_true, if_false] <;> omega

theorem RoundI128.applyU_neg (x inc : Int) (u : UMode) : applyU (-x) inc u = applyU x inc u := by
  have : isExact (-x) inc = isExact x inc := by
    rw [isExact, isExact, Bool.eq_iff_iff, beq_iff_eq, beq_iff_eq, ← Int.dvd_iff_emod_eq_zero,
      ← Int.dvd_iff_emod_eq_zero, Int.dvd_neg]
  unfold applyU resultFloor resultCeil isEvenCardinal compareRemainder quotientAbs
  rw [this, Int.neg_tdiv, Int.natAbs_neg, Int.natAbs_neg]

theorem RoundI128.round_neg (x inc : Int) (mode : RMode) :
    RoundI128.round (-x) inc mode = - RoundI128.round x inc mode.negate := by
  by_cases h0 : x = 0
  · -- at 0 the sign flag does not flip; both sides are 0
    subst h0
    simp only [RoundI128.round, Int.neg_zero, ge_iff_le, Std.le_refl, decide_true, ↓reduceIte, applyU, isExact,
      Int.zero_emod, BEq.rfl, resultFloor, quotientAbs, Int.zero_tdiv, Int.natAbs_zero, Int.cast_ofNat_Int,
      Int.zero_mul]
  · have hs : decide (-x ≥ 0) = !decide (x ≥ 0) := by
      rw [← decide_not, decide_eq_decide]; omega
    simp only [RoundI128.round, RoundI128.applyU_neg, RMode.unsigned_negate, hs]
    cases decide (x ≥ 0) <;>
      simp only [Bool.not_true, Bool.not_false, if_true, if_false, Bool.false_eq_true, Int.neg_mul, Int.neg_neg]

theorem RoundI128.applyU_mul_of_nonneg {x inc : Int} (h : 0 < inc) (hx : 0 ≤ x) (u : UMode) :
    applyU x inc u * inc =
      if x = lowerMultiple x inc then x
      else if u.up (decide (x / inc % 2 = 0)) (compare (2 * (x - lowerMultiple x inc)) inc)
        then lowerMultiple x inc + inc else lowerMultiple x inc := by
  -- each helper of the code is restated over `lowerMultiple` (`hex`, `hc`, `e1`, `e2`); what is left is the 5×3 table
  -- of `apply_unsigned_rounding_mode` against `UMode.up`, for either parity
  have h3 := Int.mul_ediv_add_emod x inc
  have hq : 0 ≤ x / inc := Int.ediv_nonneg hx (Int.le_of_lt h)
  have hqa : ((x / inc).natAbs : Int) = x / inc := by omega
  have hna : (x.natAbs : Int) = x := by omega
  have hex : isExact x inc = decide (x = lowerMultiple x inc) := by
    rw [isExact, lowerMultiple, Bool.eq_iff_iff, beq_iff_eq, decide_eq_true_iff]; omega
  have hc : compareRemainder x inc = compare (2 * (x - lowerMultiple x inc)) inc := by
    rw [compareRemainder, lowerMultiple, hna, Int.tmod_eq_emod_of_nonneg hx]; congr 1; omega
  have e1 : x / inc * inc = lowerMultiple x inc := Int.mul_comm _ _
  have e2 : (x / inc + 1) * inc = lowerMultiple x inc + inc := by rw [Int.add_mul, Int.one_mul, e1]
  simp only [applyU, resultFloor, resultCeil, isEvenCardinal, quotientAbs, hex, hc,
    Int.tdiv_eq_ediv_of_nonneg hx, hqa, decide_eq_true_eq, beq_iff_eq]
  by_cases hxl : x = lowerMultiple x inc
  · rw [if_pos hxl, if_pos hxl, e1, ← hxl]
  · rw [if_neg hxl, if_neg hxl]
    have key : ∀ b : Bool, (if b then x / inc + 1 else x / inc) * inc =
        if b then lowerMultiple x inc + inc else lowerMultiple x inc := by
      intro b; cases b <;> simp only [if_true, Bool.false_eq_true, if_false, e1, e2]
    rw [← key]; congr 1
    generalize compare (2 * (x - lowerMultiple x inc)) inc = o
    by_cases hev : x / inc % 2 = 0
    · rw [if_pos hev, decide_eq_true hev]
      generalize x / inc = q
      cases u <;> cases o <;> rfl
    · rw [if_neg hev, decide_eq_false hev]
      generalize x / inc = q
      cases u <;> cases o <;> rfl

theorem RoundI128.round_eq_spec_nonneg (x inc : Int) (mode : RMode) (h : 0 < inc) (hx : 0 ≤ x) :
    RoundI128.round x inc mode = roundSpec x inc mode := by
  simp only [RoundI128.round, ge_iff_le, decide_eq_true hx, if_true, RoundI128.applyU_mul_of_nonneg h hx, roundSpec_eq_up,
    lowerMultiple_ediv x inc h, RMode.up]

theorem RoundI128.round_eq_spec (x inc : Int) (mode : RMode) (h : 0 < inc) :
    RoundI128.round x inc mode = roundSpec x inc mode := by
  by_cases hx : 0 ≤ x
  · exact RoundI128.round_eq_spec_nonneg x inc mode h hx
  · have := RoundI128.round_eq_spec_nonneg (-x) inc mode.negate h (by omega)
    rw [RoundI128.round_neg, roundSpec_neg _ inc _ h, RMode.negate_negate] at this
    omega

theorem RoundI128.round_mul (k inc : Int) (mode : RMode) (h : 0 < inc) : RoundI128.round (inc * k) inc mode = inc * k := by
  rw [RoundI128.round_eq_spec _ inc mode h, roundSpec_mul k inc mode h]

theorem RoundI128.round_one (x : Int) (mode : RMode) : RoundI128.round x 1 mode = x := by
  have := RoundI128.round_mul x 1 mode (by decide)
  rwa [Int.one_mul] at this

/-- A multiple of `inc * D` divided by `D`, truncating as the code divides, loses nothing. -/
theorem roundSpec_tdiv_mul (x inc D : Int) (mode : RMode) :
    (roundSpec x (inc * D) mode).tdiv D * D = roundSpec x (inc * D) mode :=
  Int.tdiv_mul_cancel (Int.dvd_trans (Int.dvd_mul_left inc D) (roundSpec_dvd x _ mode))

theorem RoundI128.round_dvd (x inc : Int) (mode : RMode) (h : 0 < inc) : inc ∣ RoundI128.round x inc mode :=
  RoundI128.round_eq_spec x inc mode h ▸ roundSpec_dvd x inc mode

/-- Rounding to a multiple of `inc * D` and dividing by `D` (truncating, as coded) loses nothing and leaves a multiple
    of `inc`. -/
theorem tdiv_round_mul (x inc D : Int) (mode : RMode) (hD : 0 < D) (hinc : 0 < inc) :
    ∃ k, RoundI128.round x (inc * D) mode = inc * k * D ∧ Int.tdiv (RoundI128.round x (inc * D) mode) D = inc * k := by
  obtain ⟨k, hk⟩ := RoundI128.round_dvd x (inc * D) mode (Int.mul_pos hinc hD)
  refine ⟨k, by rw [hk, Int.mul_right_comm], ?_⟩
  rw [hk, Int.mul_right_comm, Int.mul_tdiv_cancel _ (Int.ne_of_gt hD)]

theorem RoundI128.round_between (x inc m : Int) (mode : RMode) (h : 0 < inc) (h1 : inc * m ≤ x) (h2 : x ≤ inc * (m + 1)) :
    RoundI128.round x inc mode = inc * m ∨ RoundI128.round x inc mode = inc * (m + 1) := by
  rw [RoundI128.round_eq_spec x inc mode h]
  by_cases he : x = inc * (m + 1)
  · right; rw [he, roundSpec_mul _ inc _ h]
  · rw [Int.mul_add, Int.mul_one] at h2 he ⊢
    rw [← lowerMultiple_unique h h1 (by omega)]
    exact (roundSpec_neighbour x inc mode).imp_right And.right

end TemporalModel
