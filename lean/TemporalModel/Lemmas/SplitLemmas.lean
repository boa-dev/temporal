/-
  Lemmas/SplitLemmas.lean — the balancing cascade of `TimeDuration::from_normalized` and recombination (`totalNs`) are
  inverse to each other on durations balanced to the depth of the largest unit; at the end what that gives for
  `Duration::from_normalized` (`durFromNormalized`), which puts a date part in front of the cascade's result.
-/
import TemporalModel.Lemmas.DurationLemmas
import TemporalModel.Model.DateTime
namespace TemporalModel
open Dur

/-- Balanced to depth `k`, the shape of a result of `timeFromNormalized` for a largest unit of that depth: no
    calendar fields, every field below the `k`-th unit under its modulus, every field above it zero. -/
def Dur.Balanced (k : Nat) (d : Dur) : Prop :=
  d.years = 0 ∧ d.months = 0 ∧ d.weeks = 0 ∧
  (k ≥ 1 → (d.nanoseconds.natAbs : Int) < 1000) ∧ (k ≥ 2 → (d.microseconds.natAbs : Int) < 1000) ∧
  (k ≥ 3 → (d.milliseconds.natAbs : Int) < 1000) ∧ (k ≥ 4 → (d.seconds.natAbs : Int) < 60) ∧
  (k ≥ 5 → (d.minutes.natAbs : Int) < 60) ∧ (k ≥ 6 → (d.hours.natAbs : Int) < 24) ∧
  (k < 6 → d.days = 0) ∧ (k < 5 → d.hours = 0) ∧ (k < 4 → d.minutes = 0) ∧ (k < 3 → d.seconds = 0) ∧
  (k < 2 → d.milliseconds = 0) ∧ (k < 1 → d.microseconds = 0)

theorem Dur.balanced_abs (k : Nat) (d : Dur) : d.abs.Balanced k ↔ d.Balanced k := by
  simp only [Balanced, Dur.abs, Int.natAbs_natCast, Int.natCast_eq_zero, Int.natAbs_eq_zero]

theorem Dur.balanced_negated (k : Nat) (d : Dur) : d.negated.Balanced k ↔ d.Balanced k := by
  rw [← Dur.balanced_abs, Dur.negated_abs, Dur.balanced_abs]

theorem balanceDepth_toNat (u : TUnit) :
    balanceDepth u = if u.toNat = 0 then none else some (min (u.toNat - 1) 6) := by
  cases u <;> rfl

theorem balanceDepth_le (L : TUnit) (k : Nat) (h : balanceDepth L = some k) : k ≤ 6 := by
  rw [balanceDepth_toNat] at h
  split at h
  · cases h
  · cases h; exact Nat.min_le_right ..

theorem splitNs_spec (ns : Int) (k : Nat) (h0 : 0 ≤ ns) (hk : k ≤ 6) :
    (splitNs ns k).totalNs = ns ∧ (∀ v ∈ (splitNs ns k).fields, 0 ≤ v) ∧ (splitNs ns k).Balanced k := by
  have hk' : k = 0 ∨ k = 1 ∨ k = 2 ∨ k = 3 ∨ k = 4 ∨ k = 5 ∨ k = 6 := by omega
  -- at a concrete depth `simp` decides the `if`s of the cascade and the guards of `Balanced`; what is left is
  -- arithmetic of `/` and `%` by literals
  rcases hk' with rfl | rfl | rfl | rfl | rfl | rfl | rfl <;>
    simp [splitNs, Balanced, totalNs, timeNs, Dur.forall_mem_fields] <;> omega

/-- One step of the cascade undoes one step of recombination: taken, it recovers quotient and remainder; not taken,
    there is no quotient to recover. -/
theorem splitStep_eq (c : Prop) [Decidable c] (q r m : Int) (h0 : 0 ≤ r) (hc : c → r < m) (hn : ¬c → q = 0) :
    (if c then ((q * m + r) / m, (q * m + r) % m) else (0, q * m + r)) = (q, r) := by
  by_cases h : c
  · have hm : 0 < m := by have := hc h; omega
    rw [if_pos h, Int.add_comm, Int.add_mul_ediv_right _ _ (Int.ne_of_gt hm), Int.add_mul_emod_self_right,
      Int.ediv_eq_zero_of_lt h0 (hc h), Int.emod_eq_of_lt h0 (hc h), Int.zero_add]
  · rw [if_neg h, hn h, Int.zero_mul, Int.zero_add]

theorem splitNs_totalNs (k : Nat) (r : Dur) (h0 : ∀ v ∈ r.fields, 0 ≤ v) (h : r.Balanced k) :
    splitNs r.totalNs k = r := by
  obtain ⟨y, mo, w, dd, hh, mi, se, ms, us, n⟩ := r
  obtain ⟨rfl, rfl, rfl, b1, b2, b3, b4, b5, b6, z6, z5, z4, z3, z2, z1⟩ := h
  obtain ⟨-, -, -, -, hh0, mi0, se0, ms0, us0, n0⟩ := (Dur.forall_mem_fields _ _).mp h0
  simp (disch := assumption) only [Int.natAbs_of_nonneg] at b1 b2 b3 b4 b5 b6 z6 z5 z4 z3 z2 z1
  -- `hn` of `splitStep_eq`: above a step that is not taken every field is zero
  have n6 : ¬k ≥ 6 → dd = 0 := fun c => z6 (Nat.lt_of_not_le c)
  have n5 : ¬k ≥ 5 → dd * 24 + hh = 0 := fun c => by
    rw [n6 (mt Nat.le_of_succ_le c), z5 (Nat.lt_of_not_le c)]; rfl
  have n4 : ¬k ≥ 4 → (dd * 24 + hh) * 60 + mi = 0 := fun c => by
    rw [n5 (mt Nat.le_of_succ_le c), z4 (Nat.lt_of_not_le c)]; rfl
  have n3 : ¬k ≥ 3 → ((dd * 24 + hh) * 60 + mi) * 60 + se = 0 := fun c => by
    rw [n4 (mt Nat.le_of_succ_le c), z3 (Nat.lt_of_not_le c)]; rfl
  have n2 : ¬k ≥ 2 → (((dd * 24 + hh) * 60 + mi) * 60 + se) * 1000 + ms = 0 := fun c => by
    rw [n3 (mt Nat.le_of_succ_le c), z2 (Nat.lt_of_not_le c)]; rfl
  have n1 : ¬k ≥ 1 → ((((dd * 24 + hh) * 60 + mi) * 60 + se) * 1000 + ms) * 1000 + us = 0 := fun c => by
    rw [n2 (mt Nat.le_of_succ_le c), z1 (Nat.lt_of_not_le c)]; rfl
  have e : (⟨0, 0, 0, dd, hh, mi, se, ms, us, n⟩ : Dur).totalNs =
      (((((dd * 24 + hh) * 60 + mi) * 60 + se) * 1000 + ms) * 1000 + us) * 1000 + n := by
    simp only [totalNs, timeNs]; omega
  simp only [e, splitNs, splitStep_eq _ _ _ _ n0 b1 n1, splitStep_eq _ _ _ _ us0 b2 n2,
    splitStep_eq _ _ _ _ ms0 b3 n3, splitStep_eq _ _ _ _ se0 b4 n4, splitStep_eq _ _ _ _ mi0 b5 n5,
    splitStep_eq _ _ _ _ hh0 b6 n6]

theorem Dur.signedF64_small (sg : Int) (r : Dur) (hs : ∀ f ∈ r.fields, (f.natAbs : Int) ≤ 9007199254740992) :
    r.signedF64 sg = ⟨0, 0, 0, sg * r.days, sg * r.hours, sg * r.minutes, sg * r.seconds, sg * r.milliseconds,
      sg * r.microseconds, sg * r.nanoseconds⟩ := by
  simp only [Dur.forall_mem_fields] at hs
  simp (disch := omega) only [signedF64, F64.ofInt_small]

/-- `signedF64` with the sign of the total gives a sign-uniform duration back from its absolute value. -/
theorem Dur.signedF64_abs (d : Dur) (hsu : d.signUniform) (hcal : d.calendarFree)
    (hs : ∀ f ∈ d.fields, (f.natAbs : Int) ≤ 9007199254740992) :
    d.abs.signedF64 (if d.totalNs < 0 then -1 else if d.totalNs > 0 then 1 else 0) = d := by
  rw [Dur.signedF64_small _ _ (by simpa only [Dur.forall_mem_fields, Dur.abs, Int.natAbs_natCast] using hs)]
  generalize hsg : (if d.totalNs < 0 then (-1 : Int) else if d.totalNs > 0 then 1 else 0) = sg
  have hsg' : sg = -1 ∧ d.totalNs < 0 ∨ sg = 1 ∧ d.totalNs > 0 ∨ sg = 0 ∧ d.totalNs = 0 := by omega
  obtain ⟨y, mo, w, dd, hh, mi, se, ms, us, n⟩ := d
  obtain ⟨rfl, rfl, rfl⟩ : y = 0 ∧ mo = 0 ∧ w = 0 := hcal
  simp only [signUniform, Dur.forall_mem_fields, Dur.abs, totalNs, timeNs, Dur.mk.injEq, true_and] at hsu hsg' ⊢
  clear hs hsg
  -- the sign of the total is the sign of every non-zero field
  rcases hsg' with ⟨rfl, ht⟩ | ⟨rfl, ht⟩ | ⟨rfl, ht⟩ <;> rcases hsu with h | h <;> omega

@[ensures] theorem timeFromNormalized_valid {n : Int} {L : TUnit} : (timeFromNormalized n L).Ensures Dur.ValidSpec := by
  unfold timeFromNormalized
  cases balanceDepth L <;> simp only [ensures]
  exact (Dur.isValid_iff _).mp

theorem Dur.add_valid {a b : Dur} : (a.add b).Ensures Dur.ValidSpec := by
  simp only [Dur.add, ensures]

theorem timeFromNormalized_totalNs (d : Dur) (L : TUnit) (k : Nat) (hk : balanceDepth L = some k)
    (hv : d.isValid = true) (hb : d.Balanced k) (hs : ∀ f ∈ d.fields, (f.natAbs : Int) ≤ 9007199254740992) :
    timeFromNormalized d.totalNs L = .ok d := by
  have hsu := ((Dur.isValid_iff d).mp hv).1
  unfold timeFromNormalized
  simp only [hk]
  rw [← Dur.abs_totalNs d hsu, splitNs_totalNs k _ (Dur.abs_nonneg d) ((Dur.balanced_abs k d).mpr hb),
    Dur.signedF64_abs d hsu ⟨hb.1, hb.2.1, hb.2.2.1⟩ hs, if_pos hv]

/-- Every field above a calendar-free duration's default largest unit is zero. -/
theorem Dur.defaultLargestUnit_depth (d : Dur) (hc : d.calendarFree) :
    ∃ k, balanceDepth d.defaultLargestUnit = some k ∧
      (k < 6 → d.days = 0) ∧ (k < 5 → d.hours = 0) ∧ (k < 4 → d.minutes = 0) ∧ (k < 3 → d.seconds = 0) ∧
      (k < 2 → d.milliseconds = 0) ∧ (k < 1 → d.microseconds = 0) := by
  obtain ⟨h1, h2, h3⟩ := hc
  have e := Dur.defaultLargestUnit_toNat d
  -- omega could split these three `if`s too, at twice the cost
  rw [if_neg (not_not_intro h1), if_neg (not_not_intro h2), if_neg (not_not_intro h3)] at e
  refine ⟨_, by rw [balanceDepth_toNat, if_neg (by omega)], ?_⟩
  omega

/-- The lemma behind the no-op shortcut of `Duration::round` (`C09_noop_shortcut_sound`). -/
theorem timeFromNormalized_balanced (d : Dur) (hv : d.isValid = true)
    (hcal : d.years = 0 ∧ d.months = 0 ∧ d.weeks = 0)
    (hb : (d.hours.natAbs : Int) < 24 ∧ (d.minutes.natAbs : Int) < 60 ∧ (d.seconds.natAbs : Int) < 60 ∧
      (d.milliseconds.natAbs : Int) < 1000 ∧ (d.microseconds.natAbs : Int) < 1000 ∧ (d.nanoseconds.natAbs : Int) < 1000)
    (hs : ∀ f ∈ d.fields, (f.natAbs : Int) ≤ 9007199254740992) :
    timeFromNormalized d.totalNs d.defaultLargestUnit = .ok d := by
  obtain ⟨k, hk, hz⟩ := Dur.defaultLargestUnit_depth d hcal
  obtain ⟨b6, b5, b4, b3, b2, b1⟩ := hb
  exact timeFromNormalized_totalNs d _ k hk hv
    ⟨hcal.1, hcal.2.1, hcal.2.2, fun _ => b1, fun _ => b2, fun _ => b3, fun _ => b4, fun _ => b5, fun _ => b6, hz⟩ hs

/-- Balancing a normalized time duration to a largest unit of seconds or above is exact: the fields recombine to
    the input and the result is a valid duration, balanced to the depth of the largest unit. -/
theorem timeFromNormalized_exact (norm : Int) (L : TUnit) (k : Nat) (hk : balanceDepth L = some k) (h3 : 3 ≤ k)
    (hn : (norm.natAbs : Int) ≤ MAX_TIME_DURATION) :
    ∃ r, timeFromNormalized norm L = .ok r ∧ r.totalNs = norm ∧ r.ValidSpec ∧ r.Balanced k := by
  obtain ⟨ht, h0, hb⟩ := splitNs_spec (norm.natAbs : Int) k (by omega) (balanceDepth_le L k hk)
  generalize splitNs (norm.natAbs : Int) k = sp at ht h0 hb
  unfold MAX_TIME_DURATION at hn
  -- seconds and every field above them are at most 2^53, the fields below them are under 1000
  have hs : ∀ f ∈ sp.fields, (f.natAbs : Int) ≤ 9007199254740992 := by
    obtain ⟨hy, hmo, hw, b1, b2, b3, b4, b5, b6, -⟩ := hb
    have b1 := b1 (by omega); have b2 := b2 (by omega); have b3 := b3 (by omega)
    simp only [Dur.forall_mem_fields, totalNs, timeNs] at ht h0 ⊢
    omega
  -- the result is `sp` or its negation: either is sign-uniform, balanced and has total `norm`
  have key : ∀ d : Dur, d.signUniform → d.Balanced k → d.totalNs = norm →
      (∀ f ∈ d.fields, (f.natAbs : Int) ≤ 9007199254740992) →
      ∃ r, timeFromNormalized norm L = .ok r ∧ r.totalNs = norm ∧ r.ValidSpec ∧ r.Balanced k := by
    intro d hsu hbd htd hsd
    have hvs : d.ValidSpec := by
      refine ⟨hsu, ?_, ?_, ?_, by rw [htd]; omega⟩
      · rw [hbd.1]; decide
      · rw [hbd.2.1]; decide
      · rw [hbd.2.2.1]; decide
    exact ⟨d, htd ▸ timeFromNormalized_totalNs d L k hk ((Dur.isValid_iff d).mpr hvs) hbd hsd, htd, hvs, hbd⟩
  by_cases hneg : norm < 0
  · refine key sp.negated (Or.inr ?_) ((Dur.balanced_negated k sp).mpr hb) (by rw [Dur.negated_totalNs, ht]; omega) ?_
    · simpa only [Dur.negated_fields, List.forall_mem_map, Int.neg_nonpos_iff] using h0
    · simpa only [Dur.negated_fields, List.forall_mem_map, Int.natAbs_neg] using hs
  · exact key sp (Or.inl h0) hb (by omega) hs

theorem timeFromNormalized_zero_day : timeFromNormalized 0 .day = .ok Dur.zero := by decide +kernel

@[ensures] theorem durFromNormalized_valid {date : Dur} {n : Int} {L : TUnit} :
    (durFromNormalized date n L).Ensures Dur.ValidSpec := by
  simp only [durFromNormalized, ensures]

/-- With a largest unit of hours, minutes or seconds `Duration::from_normalized` carries nothing into the days: the
    date part stays as it is and the time part is spread exactly over hours and below. The bound on the days is 2^53,
    up to which `F64.ofInt` is exact (`F64.ofInt_small`). -/
theorem durFromNormalized_time (date : Dur) (n : Int) (L : TUnit) (hL : L = .hour ∨ L = .minute ∨ L = .second)
    (hn : (n.natAbs : Int) ≤ Dur.MAX_TIME_DURATION) (hd : (date.days.natAbs : Int) ≤ 9007199254740992) :
    ∃ t : Dur, timeFromNormalized n L = .ok t ∧ t.ValidSpec ∧ t.timeNs = n ∧
      (⟨0, 0, 0, 0, t.hours, t.minutes, t.seconds, t.milliseconds, t.microseconds, t.nanoseconds⟩ : Dur) = t ∧
      durFromNormalized date n L = Dur.new ⟨date.years, date.months, date.weeks, date.days, t.hours, t.minutes,
        t.seconds, t.milliseconds, t.microseconds, t.nanoseconds⟩ := by
  obtain ⟨k, hk, h3, h6⟩ : ∃ k, balanceDepth L = some k ∧ 3 ≤ k ∧ k < 6 := by
    rcases hL with rfl | rfl | rfl <;> exact ⟨_, rfl, by decide⟩
  obtain ⟨t, ht, htot, hv, hy, hmo, hw, -, -, -, -, -, -, hz, -⟩ := timeFromNormalized_exact n L k hk h3 hn
  have hd0 := hz h6
  refine ⟨t, ht, hv, ?_, ?_, ?_⟩
  · have : t.totalNs = t.days * 86400000000000 + t.timeNs := rfl
    omega
  · cases t; simp only at hy hmo hw hd0; subst hy hmo hw hd0; rfl
  · unfold durFromNormalized
    rw [ht, Out.bind_ok, hd0, Int.add_zero, F64.ofInt_small _ hd]

end TemporalModel
