/-
  Lemmas/CalFieldLemmas.lean — the reported fields of the modelled calendars satisfy the laws of Spec/CalLaws.lean
  (bounds; consecutive days), shown once for the ISO-based calendars and once for any record that carries the fields of
  a date of a lawful calendar (`FieldsAt`): the day-count calendars here, the Hebrew calendar in Props/C16Hebrew.lean.
-/
import TemporalModel.Lemmas.CalLemmas
import TemporalModel.Spec.CalLaws
namespace TemporalModel
namespace Cal
open Greg

/-- `EraStep` on the triple `yearInfo` produces. -/
def EraStepRaw (a b : Option String × Option Int × Int) : Prop :=
  match a.1, a.2.1, b.1, b.2.1 with
  | some ea, some ya, some eb, some yb =>
    if ea = eb then (yb - ya = b.2.2 - a.2.2 ∨ ya - yb = b.2.2 - a.2.2) else (yb = 1 ∨ ya = 1)
  | none, none, none, none => True
  | _, _, _, _ => False

theorem eraStep_iff (a b : CalFields) :
    EraStep a b ↔ EraStepRaw (a.era, a.eraYear, a.year) (b.era, b.eraYear, b.year) := by
  unfold EraStep EraStepRaw; rfl

theorem eraStep_same_era (e : String) {a a' y y' : Int} (h : a' - a = y' - y ∨ a - a' = y' - y) :
    EraStepRaw (some e, some a, y) (some e, some a', y') := by
  simp only [EraStepRaw, if_true]; exact h

/-- The same or the next internal year (and not `japanese`, whose eras change within a year). -/
theorem eraStep_yearInfo (cal : CalId) (hc : cal ≠ .japanese) (y m d y' m' d' : Int) (hy : y' = y ∨ y' = y + 1) :
    EraStepRaw (yearInfo cal y m d) (yearInfo cal y' m' d') := by
  cases cal
  case japanese => exact absurd rfl hc
  -- two eras, one counting forwards after an anchor year, one backwards up to it: on which side are `y` and `y'`
  case gregory | coptic | ethiopic =>
    by_cases h : y > 0 <;> by_cases h' : y' > 0 <;>
      simp only [yearInfo, EraStepRaw, h, h', reduceIte, String.reduceEq, true_or] <;> omega
  case roc =>
    by_cases h : y > 1911 <;> by_cases h' : y' > 1911 <;>
      simp only [yearInfo, EraStepRaw, h, h', reduceIte, String.reduceEq] <;> omega
  case buddhist | ethioaa | indian | islamicCivil | islamicTbla | persian =>
    exact eraStep_same_era _ (.inl (by omega))
  all_goals exact True.intro

theorem ymdLe_iff (a b : Int × Int × Int) :
    ymdLe a b = true ↔ (a.1 < b.1 ∨ (a.1 = b.1 ∧ (a.2.1 < b.2.1 ∨ (a.2.1 = b.2.1 ∧ a.2.2 ≤ b.2.2)))) := by
  simp only [ymdLe, Bool.or_eq_true, Bool.and_eq_true, decide_eq_true_eq]

theorem ymdLe_false_iff (a b : Int × Int × Int) :
    ymdLe a b = false ↔ ¬ (a.1 < b.1 ∨ (a.1 = b.1 ∧ (a.2.1 < b.2.1 ∨ (a.2.1 = b.2.1 ∧ a.2.2 ≤ b.2.2)))) := by
  rw [← ymdLe_iff, Bool.not_eq_true]

/-- A modern era with its bracket, or before Meiji: `bce`, or `ce`. -/
theorem japaneseEraYear_cases (y m d : Int) :
    (∃ code start next, (code, start, next) ∈ japaneseEras ∧ ymdLe start (y, m, d) = true ∧
      (∀ nx, next = some nx → ymdLe nx (y, m, d) = false) ∧ japaneseEraYear y m d = (code, y - start.1 + 1)) ∨
    (ymdLe (1868, 9, 8) (y, m, d) = false ∧ y ≤ 0 ∧ japaneseEraYear y m d = ("bce", 1 - y)) ∨
    (ymdLe (1868, 9, 8) (y, m, d) = false ∧ 0 < y ∧ japaneseEraYear y m d = ("ce", y)) := by
  unfold japaneseEraYear
  -- walk the chain, newest era first; each test that fails is kept as `= false` for the next era's bracket
  by_cases c5 : ymdLe (2019, 5, 1) (y, m, d) = true
  · exact .inl ⟨"reiwa", (2019, 5, 1), none, by decide, c5, nofun,
      by rw [if_pos c5]; exact congrArg _ (by omega : y - 2018 = y - 2019 + 1)⟩
  rw [if_neg c5]; rw [Bool.not_eq_true] at c5
  by_cases c4 : ymdLe (1989, 1, 8) (y, m, d) = true
  · exact .inl ⟨"heisei", (1989, 1, 8), some (2019, 5, 1), by decide, c4, fun _ e => Option.some.inj e ▸ c5,
      by rw [if_pos c4]; exact congrArg _ (by omega : y - 1988 = y - 1989 + 1)⟩
  rw [if_neg c4]; rw [Bool.not_eq_true] at c4
  by_cases c3 : ymdLe (1926, 12, 25) (y, m, d) = true
  · exact .inl ⟨"showa", (1926, 12, 25), some (1989, 1, 8), by decide, c3, fun _ e => Option.some.inj e ▸ c4,
      by rw [if_pos c3]; exact congrArg _ (by omega : y - 1925 = y - 1926 + 1)⟩
  rw [if_neg c3]; rw [Bool.not_eq_true] at c3
  by_cases c2 : ymdLe (1912, 7, 30) (y, m, d) = true
  · exact .inl ⟨"taisho", (1912, 7, 30), some (1926, 12, 25), by decide, c2, fun _ e => Option.some.inj e ▸ c3,
      by rw [if_pos c2]; exact congrArg _ (by omega : y - 1911 = y - 1912 + 1)⟩
  rw [if_neg c2]; rw [Bool.not_eq_true] at c2
  by_cases c1 : ymdLe (1868, 9, 8) (y, m, d) = true
  · exact .inl ⟨"meiji", (1868, 9, 8), some (1912, 7, 30), by decide, c1, fun _ e => Option.some.inj e ▸ c2,
      by rw [if_pos c1]; exact congrArg _ (by omega : y - 1867 = y - 1868 + 1)⟩
  rw [if_neg c1]; rw [Bool.not_eq_true] at c1
  by_cases c0 : y ≤ 0
  · exact .inr (.inl ⟨c1, c0, if_pos c0⟩)
  · exact .inr (.inr ⟨c1, by omega, if_neg c0⟩)

/-- The next day passes a calendar day `s` only by landing on it. -/
theorem ymdLe_nextDay (sy sm sd : Int) (hs : Valid sy sm sd) (y m d : Int) (hv : Valid y m d) :
    (ymdLe (sy, sm, sd) (nextDay y m d) = true ↔ ymdLe (sy, sm, sd) (y, m, d) = true) ∨
      (ymdLe (sy, sm, sd) (y, m, d) = false ∧ nextDay y m d = (sy, sm, sd)) := by
  obtain ⟨h1, h2, h3, h4⟩ := hv
  obtain ⟨s1, s2, s3, s4⟩ := hs
  have hdec := dim_dec y
  -- the one non-linear step: in the month of (y, m, d) the day `sd` is bounded by the same month length
  have hdim : sy = y → sm = m → sd ≤ dim y m := by intro e1 e2; subst e1 e2; exact s4
  rcases nextDay_cases y m d with ⟨e, _⟩ | ⟨e, _, _⟩ | ⟨e, _, _⟩ <;> rw [e] <;>
    simp only [ymdLe_iff, ymdLe_false_iff, Prod.mk.injEq] <;> omega

/-- Two dates in the same or consecutive years that stand alike to every era start: the era year follows the year
    (counting back before 1 CE), or 1 CE starts. -/
theorem japanese_eraStep_of_agree (y m d y' m' d' : Int) (hy : y' = y ∨ y' = y + 1)
    (h : ∀ r ∈ japaneseEras, (ymdLe r.2.1 (y', m', d') = true ↔ ymdLe r.2.1 (y, m, d) = true)) :
    EraStepRaw (yearInfo .japanese y m d) (yearInfo .japanese y' m' d') := by
  simp only [japaneseEras, List.forall_mem_cons, List.not_mem_nil, false_imp_iff, implies_true, and_true] at h
  obtain ⟨h1, h2, h3, h4, h5⟩ := h
  simp only [yearInfo, japaneseEraYear, h1, h2, h3, h4, h5]
  -- with the tests at (y', m', d') rewritten to those at (y, m, d), one walk of the five era starts, newest first,
  -- serves both dates (`split` does the same at five times the cost; `japaneseEraYear_cases` at both dates would
  -- need the rows' brackets to be ordered and disjoint, which the walk does not)
  by_cases c5 : ymdLe (2019, 5, 1) (y, m, d) = true
  · simp only [if_pos c5]; exact eraStep_same_era _ (.inl (by omega))
  by_cases c4 : ymdLe (1989, 1, 8) (y, m, d) = true
  · simp only [if_neg c5, if_pos c4]; exact eraStep_same_era _ (.inl (by omega))
  by_cases c3 : ymdLe (1926, 12, 25) (y, m, d) = true
  · simp only [if_neg c5, if_neg c4, if_pos c3]; exact eraStep_same_era _ (.inl (by omega))
  by_cases c2 : ymdLe (1912, 7, 30) (y, m, d) = true
  · simp only [if_neg c5, if_neg c4, if_neg c3, if_pos c2]; exact eraStep_same_era _ (.inl (by omega))
  by_cases c1 : ymdLe (1868, 9, 8) (y, m, d) = true
  · simp only [if_neg c5, if_neg c4, if_neg c3, if_neg c2, if_pos c1]; exact eraStep_same_era _ (.inl (by omega))
  simp only [if_neg c5, if_neg c4, if_neg c3, if_neg c2, if_neg c1]
  by_cases c : y ≤ 0 <;> by_cases c' : y' ≤ 0 <;>
    simp only [EraStepRaw, c, c', reduceIte, String.reduceEq, true_or] <;> omega

/-- The first day of each modern era is a calendar day, and year 1 of that era. -/
theorem japaneseEras_start : ∀ r ∈ japaneseEras,
    Valid r.2.1.1 r.2.1.2.1 r.2.1.2.2 ∧ japaneseEraYear r.2.1.1 r.2.1.2.1 r.2.1.2.2 = (r.1, 1) := by
  decide

/-- The codes of the modern eras are distinct, and none is one of the library's four codes of the Common Era. -/
theorem japaneseEras_codes : ∀ r ∈ japaneseEras, (∀ r' ∈ japaneseEras, r'.1 = r.1 → r' = r) ∧
    r.1 ≠ "bce" ∧ r.1 ≠ "japanese-inverse" ∧ r.1 ≠ "ce" ∧ r.1 ≠ "japanese" := by
  decide

theorem japaneseEraYear_start {code : String} {start : Int × Int × Int} {next : Option (Int × Int × Int)}
    (hr : (code, start, next) ∈ japaneseEras) (y m d : Int) (he : (japaneseEraYear y m d).1 = code) :
    ymdLe start (y, m, d) = true := by
  obtain ⟨huniq, n1, -, n2, -⟩ := japaneseEras_codes _ hr
  rcases japaneseEraYear_cases y m d with ⟨code', start', next', hr', hs, -, ea⟩ | ⟨-, -, ea⟩ | ⟨-, -, ea⟩ <;>
    rw [ea] at he
  · cases huniq _ hr' he; exact hs
  · exact absurd he.symm n1
  · exact absurd he.symm n2

/-- Arriving on the first day of a modern era from a date before it: the new era starts with year 1. -/
theorem japanese_eraStep_start {code : String} {start : Int × Int × Int} {next : Option (Int × Int × Int)}
    (hr : (code, start, next) ∈ japaneseEras) (y m d : Int) (h : ymdLe start (y, m, d) = false) :
    EraStepRaw (yearInfo .japanese y m d) (yearInfo .japanese start.1 start.2.1 start.2.2) := by
  have hne : (japaneseEraYear y m d).1 ≠ code := fun he => by
    rw [japaneseEraYear_start hr y m d he] at h; cases h
  simp only [yearInfo, (japaneseEras_start _ hr).2, EraStepRaw, if_neg hne, true_or]

theorem japanese_eraStep (y m d : Int) (hv : Valid y m d) :
    EraStepRaw (yearInfo .japanese y m d)
      (yearInfo .japanese (nextDay y m d).1 (nextDay y m d).2.1 (nextDay y m d).2.2) := by
  -- the next day either lands on the first day of an era, or stands to every era start as the day itself does
  by_cases hit : ∃ r ∈ japaneseEras, ymdLe r.2.1 (y, m, d) = false ∧ nextDay y m d = r.2.1
  · obtain ⟨⟨code, start, next⟩, hr, a, e⟩ := hit
    rw [e]; exact japanese_eraStep_start hr y m d a
  · refine japanese_eraStep_of_agree y m d _ _ _ (nextDay_year y m d) fun r hr => ?_
    rcases ymdLe_nextDay _ _ _ (japaneseEras_start r hr).1 y m d hv with h | h
    · exact h
    · exact absurd ⟨r, hr, h⟩ hit

theorem yearInfo_era_iff (cal : CalId) (y m d : Int) :
    (yearInfo cal y m d).1.isSome ↔ (yearInfo cal y m d).2.1.isSome := by
  cases cal
  case gregory | roc | coptic | ethiopic => simp only [yearInfo]; split <;> exact Iff.rfl
  all_goals exact Iff.rfl

theorem yearInfo_year (cal : CalId) (y m d : Int) :
    (yearInfo cal y m d).2.2 = y + (if cal = .buddhist then 543 else 0) := by
  cases cal
  case buddhist => rfl
  case gregory | roc | coptic | ethiopic => simp only [yearInfo]; split <;> exact (Int.add_zero y).symm
  all_goals exact (Int.add_zero y).symm

theorem isoFields_ok (cal : CalId) (y m d : Int) (hv : Valid y m d) : FieldsOk (isoFields cal y m d) := by
  have a := monthStart_nonneg y m
  have b := dayNumber_mem_year y m d hv
  unfold dayNumber at b
  unfold FieldsOk isoFields dayOfYear
  simp only
  exact ⟨hv.2.2.1, hv.2.2.2, hv.1, hv.2.1, by omega, by omega, by omega, .inl (by have := hv.1; omega),
    fun h => absurd h Bool.false_ne_true, yearInfo_era_iff cal y m d⟩

theorem isoFields_consecutive (cal : CalId) (y m d : Int) (hv : Valid y m d) :
    Consecutive (isoFields cal y m d)
      (isoFields cal (nextDay y m d).1 (nextDay y m d).2.1 (nextDay y m d).2.2) := by
  have hera : EraStep (isoFields cal y m d)
      (isoFields cal (nextDay y m d).1 (nextDay y m d).2.1 (nextDay y m d).2.2) := by
    rw [eraStep_iff]
    by_cases hj : cal = .japanese
    · subst hj; exact japanese_eraStep y m d hv
    · exact eraStep_yearInfo cal hj _ _ _ _ _ _ (nextDay_year y m d)
  refine ⟨hera, ?_⟩
  obtain ⟨h1, h2, h3, h4⟩ := hv
  -- after unfolding, a field that does not move reads `True`
  rcases nextDay_cases y m d with ⟨e, hd⟩ | ⟨e, hd, hm⟩ | ⟨e, hd, hm⟩
  · rw [e]; simp only [isoFields, yearInfo_year, dayOfYear]
    exact .inl ⟨trivial, trivial, trivial, trivial, by omega, trivial, trivial, trivial, trivial⟩
  · rw [e]; simp only [isoFields, yearInfo_year, dayOfYear]
    have hs := monthStart_succ y m h1 hm
    exact .inr (.inl ⟨trivial, trivial, fun hh => by injection hh with hh _; omega, by omega, trivial, by omega,
      trivial, trivial, trivial⟩)
  · rw [e]; simp only [isoFields, yearInfo_year, dayOfYear]
    have hdec := monthStart_dec y
    have hdd := dim_dec y
    have hj := monthStart_jan (y + 1)
    have hm12 : m = 12 := by omega
    subst hm12
    exact .inr (.inr ⟨by omega, trivial, rfl, by omega, trivial, by omega, by omega⟩)

/-- `f` carries the numeric fields of the date (y, m, d) of the calendar `c`. -/
def FieldsAt (c : ACal) (y : Int) (m : Nat) (d : Int) (f : CalFields) : Prop :=
  f.year = y ∧ f.month = m ∧ f.day = d ∧ f.dayOfYear = c.before y (m - 1) + d ∧
  f.daysInMonth = c.dim y m ∧ f.daysInYear = c.diy y ∧ f.monthsInYear = c.months y

variable {c : ACal} {y y' : Int} {m m' : Nat} {d d' : Int} {f g : CalFields}

/-- The fields of an existing date are within bounds, whatever month code and era go with them. -/
theorem FieldsAt.ok (h : c.Lawful) (hv : c.Valid y m d) (hf : FieldsAt c y m d f)
    (hcode : ((f.monthCode.num : Int) = m ∨ (f.monthCode.num : Int) + 1 = m) ∧
      (f.monthCode.leap = true → (f.monthCode.num : Int) + 1 = m))
    (hera : f.era.isSome ↔ f.eraYear.isSome) : FieldsOk f := by
  obtain ⟨hb, hle⟩ := doy_bounds h y m d hv
  obtain ⟨h1, h2, h3, h4⟩ := hv
  obtain ⟨_, e2, e3, e4, e5, e6, e7⟩ := hf
  unfold FieldsOk
  rw [e2, e3, e4, e5, e6, e7]
  exact ⟨h3, h4, by omega, by omega, by omega, hle, by omega, hcode.1, hcode.2, hera⟩

/-- The fields of a date and of its successor in the calendar are consecutive, given what the month code, the
    era and the leap flag do: inside a year the flag stays and the code changes exactly with the month. -/
theorem FieldsAt.consecutive (hv : c.Valid y m d) (hn : c.next y m d = (y', m', d')) (hf : FieldsAt c y m d f)
    (hg : FieldsAt c y' m' d' g) (hera : EraStep f g) (hleap : y' = y → g.inLeapYear = f.inLeapYear)
    (hsame : y' = y → m' = m → g.monthCode = f.monthCode)
    (hnext : y' = y → m' = m + 1 → g.monthCode ≠ f.monthCode) : Consecutive f g := by
  obtain ⟨h1, h2, h3, h4⟩ := hv
  obtain ⟨f1, f2, f3, f4, f5, f6, f7⟩ := hf
  obtain ⟨g1, g2, g3, g4, g5, g6, g7⟩ := hg
  have hp := before_pred c y m h1
  refine ⟨hera, ?_⟩
  rw [f1, f2, f3, f4, f5, f6, f7, g1, g2, g3, g4, g5, g6, g7]
  unfold ACal.next at hn
  split at hn
  · cases hn
    exact .inl ⟨rfl, rfl, hsame rfl rfl, rfl, by omega, rfl, rfl, rfl, hleap rfl⟩
  · split at hn
    · cases hn
      rw [Nat.add_sub_cancel]
      exact .inr (.inl ⟨rfl, by omega, hnext rfl rfl, by omega, rfl, by omega, rfl, rfl, hleap rfl⟩)
    · cases hn
      have hm : m = c.months y := by omega
      subst hm
      unfold ACal.diy
      exact .inr (.inr ⟨rfl, rfl, rfl, by omega, rfl, by omega, Int.zero_add 1⟩)

/-- A day-count calendar reports its internal year (only `buddhist` shifts the year, and it is ISO-based). -/
theorem arithFields_year (cal : CalId) (c : ACal) (hc : cal.arith = some c) (n : Int) :
    (arithFields cal c n).year = (c.ofDay n).1 := by
  have hb : cal ≠ .buddhist := by intro hb; subst hb; cases hc
  exact (yearInfo_year cal _ _ _).trans (by rw [if_neg hb, Int.add_zero])

theorem arithFields_at (cal : CalId) (c : ACal) (hc : cal.arith = some c) (n : Int) :
    FieldsAt c (c.ofDay n).1 (c.ofDay n).2.1 (c.ofDay n).2.2 (arithFields cal c n) :=
  ⟨arithFields_year cal c hc n, rfl, rfl, rfl, rfl, rfl, rfl⟩

theorem arithFields_ok (cal : CalId) (c : ACal) (hc : cal.arith = some c) (n : Int) :
    FieldsOk (arithFields cal c n) :=
  have h := arith_lawful cal c hc
  (arithFields_at cal c hc n).ok h (ofDay_spec h n).1 ⟨.inl rfl, fun hh => absurd hh Bool.false_ne_true⟩
    (yearInfo_era_iff cal _ _ _)

theorem arithFields_consecutive (cal : CalId) (c : ACal) (hc : cal.arith = some c) (n : Int) :
    Consecutive (arithFields cal c n) (arithFields cal c (n + 1)) := by
  have h := arith_lawful cal c hc
  have hj : cal ≠ .japanese := by intro hj; subst hj; cases hc
  obtain ⟨y', m', d', hn⟩ : ∃ y' m' d', c.next (c.ofDay n).1 (c.ofDay n).2.1 (c.ofDay n).2.2 = (y', m', d') :=
    ⟨_, _, _, rfl⟩
  have e : c.ofDay (n + 1) = (y', m', d') := (ofDay_succ h n).trans hn
  have hg := arithFields_at cal c hc (n + 1)
  rw [e] at hg
  refine (arithFields_at cal c hc n).consecutive (ofDay_spec h n).1 hn hg ?_ ?_ ?_ ?_
  · rw [eraStep_iff]
    simp only [arithFields, e]
    have hy := next_year c (c.ofDay n).1 (c.ofDay n).2.1 (c.ofDay n).2.2
    rw [hn] at hy
    exact eraStep_yearInfo cal hj _ _ _ _ _ _ hy
  · intro hy; simp only [arithFields, e, hy]
  · intro _ hm; simp only [arithFields, e, hm]
  · intro _ hm hh; simp only [arithFields, e, hm] at hh; injection hh with hh _; omega

end Cal
end TemporalModel
