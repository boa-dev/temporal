/-
  Lemmas/ZoneLemmas.lean — what the definitions of Model/Zone.lean compute, so that C13 and C14 need not unfold them:
  the search for a reading's instants (once for `Zone` and for the `RawZone` of Model/Tzif.lean), a zone with a single
  transition in closed form (the zone of the gap theorems), the provider's checked answers when the instants are in
  range. The coherence invariant of the bundled provider's zone cache is here too, where C15 and C20 both find it.
-/
import TemporalModel.Spec.Zone
import TemporalModel.Model.Tzif
namespace TemporalModel

theorem pairwise_mergeSort_le (l : List Int) : (l.mergeSort (· ≤ ·)).Pairwise (· ≤ ·) := by
  simpa only [decide_eq_true_eq] using List.pairwise_mergeSort (le := fun a b : Int => decide (a ≤ b))
    (by intro a b c; simp only [decide_eq_true_eq]; omega)
    (by intro a b; simp only [Bool.or_eq_true, decide_eq_true_eq]; omega) l

/-- `Zone.possible` (nanoseconds, `scale o = o * 10^9`) and `RawZone.possible` (seconds, `scale o = o`) are one search:
    each listed offset `o` proposes the instant `loc - scale o`, which counts iff `o` is the offset in force there. -/
theorem mem_candidates_iff (offsets : List Int) (offsetAt scale : Int → Int) (loc t : Int) :
    t ∈ (offsets.filterMap fun o => if offsetAt (loc - scale o) = o then some (loc - scale o) else none).mergeSort
        (· ≤ ·) ↔ t + scale (offsetAt t) = loc ∧ offsetAt t ∈ offsets := by
  simp only [List.mem_mergeSort, List.mem_filterMap, Option.ite_none_right_eq_some, Option.some.injEq]
  constructor
  · rintro ⟨o, hm, ho, rfl⟩
    rw [ho]; exact ⟨by omega, hm⟩
  · rintro ⟨h, hm⟩
    have e : loc - scale (offsetAt t) = t := by omega
    exact ⟨_, hm, by rw [e], e⟩

namespace Zone

/-- The scan of `lookup` only ever holds the initial offset or the offset of a transition it has passed. -/
private theorem foldl_fst_mem (t : Int) (S : List Int) : ∀ (l : List (Int × Int)) (acc : Int × Option Int),
    acc.1 ∈ S → (∀ tr ∈ l, tr.2 ∈ S) →
    (l.foldl (fun acc tr => if tr.1 ≤ t then (tr.2, some tr.1) else acc) acc).1 ∈ S
  | [], _, h, _ => h
  | tr :: rest, acc, h, hl => by
    refine foldl_fst_mem t S rest _ ?_ (fun x hx => hl x (List.mem_cons_of_mem _ hx))
    show (if tr.1 ≤ t then (tr.2, some tr.1) else acc).1 ∈ S
    split
    · exact hl tr (List.mem_cons_self ..)
    · exact h

theorem offsetAt_mem_offsets (z : Zone) (t : Int) : z.offsetAt t ∈ z.offsets := by
  rw [offsets, List.mem_eraseDups]
  exact foldl_fst_mem t _ z.trans _ (List.mem_cons_self ..)
    (fun tr h => List.mem_cons_of_mem _ (List.mem_map_of_mem h))

theorem lookup_single (ob T oa t : Int) :
    (⟨ob, [(T, oa)]⟩ : Zone).lookup t = if T ≤ t then (oa, some T) else (ob, none) := rfl

theorem offsetAt_single (ob T oa t : Int) : (⟨ob, [(T, oa)]⟩ : Zone).offsetAt t = if T ≤ t then oa else ob := by
  rw [offsetAt, lookup_single]; split <;> rfl

/-- One transition: one candidate per offset. -/
theorem possible_single (ob T oa L : Int) (hne : ob ≠ oa) :
    (⟨ob, [(T, oa)]⟩ : Zone).possible L =
      ((if T ≤ (L - ob * 1000000000) / 1000000000 then [] else [L - ob * 1000000000]) ++
       (if T ≤ (L - oa * 1000000000) / 1000000000 then [L - oa * 1000000000] else [])).mergeSort (· ≤ ·) := by
  have hoffs : (⟨ob, [(T, oa)]⟩ : Zone).offsets = [ob, oa] := by
    show [ob, oa].eraseDups = [ob, oa]
    rw [List.eraseDups_cons, List.filter_cons, if_pos (show (!oa == ob) = true from bne_iff_ne.mpr hne.symm),
      List.filter_nil, List.eraseDups_cons, List.filter_nil, List.eraseDups_nil]
  simp only [possible, hoffs, List.filterMap_cons, List.filterMap_nil, offsetAt_single]
  by_cases c1 : T ≤ (L - ob * 1000000000) / 1000000000 <;> by_cases c2 : T ≤ (L - oa * 1000000000) / 1000000000 <;>
    simp only [c1, c2, hne, hne.symm, if_true, if_false] <;> rfl

/-- A reading inside the gap of a forward transition has no instant: either candidate falls on the wrong side of `T`. -/
theorem possible_single_gap {ob T oa L : Int} (hlt : ob < oa) (h1 : (T + ob) * 1000000000 ≤ L)
    (h2 : L < (T + oa) * 1000000000) : (⟨ob, [(T, oa)]⟩ : Zone).possible L = [] := by
  rw [possible_single ob T oa L (by omega), if_pos (by omega), if_neg (by omega), List.append_nil, List.mergeSort_nil]

end Zone

theorem TZ.epochNs_of_valid {x : Int} (h : isValidEpochNanos x = true) : TZ.epochNs x = .ok x := if_pos h

theorem TZ.epochNs_eq (x : Int) :
    TZ.epochNs x = if -NS_MAX_INSTANT ≤ x ∧ x ≤ NS_MAX_INSTANT then .ok x else .err .range := by
  unfold TZ.epochNs isValidEpochNanos
  simp only [Bool.and_eq_true, decide_eq_true_eq]

theorem TZ.possibleFor_named {z : Zone} {date : IsoDate} {time : IsoTime} (hr : TZ.validDayRange date = .ok ())
    (hv : ∀ t ∈ z.possible (toUncheckedEpochNanoseconds date time), isValidEpochNanos t = true) :
    (TZ.named z).possibleFor ⟨date, time⟩ = .ok (z.possible (toUncheckedEpochNanoseconds date time)) := by
  unfold TZ.possibleFor
  simp only [hr, Out.bind_ok]
  generalize z.possible _ = l at hv ⊢
  induction l with
  | nil => rfl
  | cons a as ih =>
    rw [List.foldr_cons, ih (fun t ht => hv t (List.mem_cons_of_mem _ ht)),
      TZ.epochNs_of_valid (hv a (List.mem_cons_self ..))]
    rfl

theorem TZ.startOfDay_named {z : Zone} {date : IsoDate} (hr : TZ.validDayRange date = .ok ())
    (hv : ∀ t ∈ z.possible (toUncheckedEpochNanoseconds date IsoTime.midnight), isValidEpochNanos t = true) :
    (TZ.named z).startOfDay date =
      match (z.possible (toUncheckedEpochNanoseconds date IsoTime.midnight)).head? with
      | some x => .ok x
      | none =>
        match (z.lookup ((toUncheckedEpochNanoseconds date IsoTime.midnight + NS_PER_DAY) / 1000000000)).2 with
        | some t => TZ.epochNs (t * 1000000000)
        | none => .err .type := by
  simp only [TZ.startOfDay, TZ.possibleFor_named hr hv, Out.bind_ok]
  rfl

/-- Every cached zone is what the file system holds. -/
def ZoneCache.Coherent (read : String → Option RawZone) (c : ZoneCache) : Prop :=
  ∀ id z, c.lookup id = some z → read id = some z

theorem cacheGet_spec (read : String → Option RawZone) (c : ZoneCache) (id : String) (hc : ZoneCache.Coherent read c) :
    (cacheGet read c id).1 = read id ∧ ZoneCache.Coherent read (cacheGet read c id).2 := by
  unfold cacheGet
  cases hl : c.lookup id with
  | some z => exact ⟨(hc id z hl).symm, hc⟩
  | none =>
    cases hr : read id with
    | none => exact ⟨rfl, hc⟩
    | some z =>
      refine ⟨rfl, fun id' z' h' => ?_⟩
      rw [List.lookup_cons] at h'
      split at h'
      · next e => cases h'; rw [eq_of_beq e]; exact hr
      · exact hc id' z' h'

end TemporalModel
