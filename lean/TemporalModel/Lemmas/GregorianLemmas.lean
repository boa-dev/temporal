/-
  Lemmas/GregorianLemmas.lean — the Gregorian day line of Spec/Gregorian.lean and the two coded kernels of
  Model/Gregorian.lean.  Both kernels work in March-based coordinates: a year `Y` that starts on 1 March
  (shifted by 400·3670 years to be non-negative) and a month `M` in 3..14, January and February being
  months 13 and 14 of the year before.  `dayNumber_march` puts the day line into these coordinates; the
  forward kernel is then `toDays_march`, and the reverse kernel splits a day count into `Y`, a day of the
  March-based year (`yearDoy_split`) and, by a 366-row table, `M` and the day of the month.
  As integer functions both kernels are exact for all years; the windows only bound the machine types.
  In lemma names `toDays` stands for `epochDaysFromGregorianDate` and `fromDays` for `ymdFromEpochDays`.
-/
import TemporalModel.Model.Gregorian
import TemporalModel.Spec.Gregorian
namespace TemporalModel
open NS Greg

/-- The year window inside which every machine intermediate of the kernels is exact; it strictly
    contains Temporal's range (years −271821 … 275760). -/
def InWin (y : Int) : Prop := -1200000 ≤ y ∧ y ≤ 1200000

/-- Window of day numbers on which the reverse kernel is exact (⊃ Temporal's ±(10^8+1) days). -/
def InDayWin (n : Int) : Prop := -400000000 ≤ n ∧ n ≤ 400000000

theorem yearStart_succ (y : Int) : yearStart (y + 1) = yearStart y + diy y := by
  unfold yearStart diy isLeap
  simp only [decide_eq_true_eq]
  omega

theorem diy_eq (y : Int) : diy y = 365 + if isLeap y then 1 else 0 := by
  unfold diy; split <;> rfl

theorem yearStart_mono (a b : Int) (h : a ≤ b) : yearStart a ≤ yearStart b := by
  unfold yearStart; omega

theorem dayNumber_anchor : dayNumber 1970 1 1 = 0 := by decide

theorem dayNumber_add_day (y m d k : Int) : dayNumber y m (d + k) = dayNumber y m d + k := by
  unfold dayNumber; omega

/-- `monthStart` in the kernels' closed form: `(979 M - 2919) / 32` days lie between 1 March and the first of
    March-based month `M`. -/
theorem monthStart_eq (y m : Int) (h1 : 1 ≤ m) (h12 : m ≤ 12) :
    monthStart y m = if m ≤ 2 then (979 * (m + 12) - 2919) / 32 - 306
      else (979 * m - 2919) / 32 + 59 + (if isLeap y then 1 else 0) := by
  have hm : m = 1 ∨ m = 2 ∨ m = 3 ∨ m = 4 ∨ m = 5 ∨ m = 6 ∨ m = 7 ∨ m = 8 ∨ m = 9 ∨ m = 10 ∨ m = 11 ∨ m = 12 := by
    omega
  unfold monthStart
  rcases hm with rfl | rfl | rfl | rfl | rfl | rfl | rfl | rfl | rfl | rfl | rfl | rfl <;> cases isLeap y <;> rfl

theorem monthStart_jan (y : Int) : monthStart y 1 = 0 := rfl

theorem monthStart_succ (y m : Int) (h1 : 1 ≤ m) (h2 : m < 12) :
    monthStart y (m + 1) = monthStart y m + dim y m := by
  have hm : m = 1 ∨ m = 2 ∨ m = 3 ∨ m = 4 ∨ m = 5 ∨ m = 6 ∨ m = 7 ∨ m = 8 ∨ m = 9 ∨ m = 10 ∨ m = 11 := by omega
  unfold monthStart dim
  rcases hm with rfl | rfl | rfl | rfl | rfl | rfl | rfl | rfl | rfl | rfl | rfl <;> cases isLeap y <;> rfl

theorem dim_dec (y : Int) : dim y 12 = 31 := rfl

theorem monthStart_dec (y : Int) : monthStart y 12 + 31 = diy y := by
  unfold monthStart diy; cases isLeap y <;> rfl

theorem monthStart_nonneg (y m : Int) : 0 ≤ monthStart y m := by
  unfold monthStart; dsimp only; omega

theorem monthStart_le (y m1 m2 : Int) (h1 : 1 ≤ m1) (h : m1 ≤ m2) (h2 : m2 ≤ 12) :
    monthStart y m1 ≤ monthStart y m2 := by
  rw [monthStart_eq y m1 h1 (by omega), monthStart_eq y m2 (by omega) h2]; omega

theorem monthStart_add_dim_le (y m : Int) (h1 : 1 ≤ m) (h2 : m ≤ 12) : monthStart y m + dim y m ≤ diy y := by
  by_cases h : m < 12
  · have := monthStart_succ y m h1 h
    have := monthStart_le y (m + 1) 12 (by omega) (by omega) (by omega)
    have := monthStart_dec y
    omega
  · obtain rfl : m = 12 := by omega
    have := monthStart_dec y
    have := dim_dec y
    omega

theorem dim_bounds (y m : Int) : 28 ≤ dim y m ∧ dim y m ≤ 31 := by
  unfold dim; omega

theorem dim_pos (y m : Int) : 1 ≤ dim y m := Int.le_trans (by decide) (dim_bounds y m).1

theorem dayNumber_mem_year (y m d : Int) (h : Valid y m d) :
    yearStart y ≤ dayNumber y m d ∧ dayNumber y m d < yearStart y + diy y := by
  have := monthStart_nonneg y m
  have := monthStart_add_dim_le y m h.1 h.2.1
  have := h.2.2.1; have := h.2.2.2
  unfold dayNumber; omega

/-- A linear-in-year envelope of `dayNumber`, with which omega trades bounds on the day number for bounds on the year;
    `- 3` and `+ 369` absorb the offsets of the three floor terms of `yearStart` and one year's length. -/
theorem dayNumber_year_bound (y m d : Int) (h : Valid y m d) :
    365 * (y - 1970) + (y - 1970) / 4 - (y - 1970) / 100 + (y - 1970) / 400 - 3 ≤ dayNumber y m d ∧
    dayNumber y m d ≤ 365 * (y - 1970) + (y - 1970) / 4 - (y - 1970) / 100 + (y - 1970) / 400 + 369 := by
  have := dayNumber_mem_year y m d h
  rw [diy_eq] at this
  unfold yearStart at this
  omega

theorem nextDay_cases (y m d : Int) :
    nextDay y m d = (y, m, d + 1) ∧ d < dim y m ∨
    nextDay y m d = (y, m + 1, 1) ∧ ¬ d < dim y m ∧ m < 12 ∨
    nextDay y m d = (y + 1, 1, 1) ∧ ¬ d < dim y m ∧ ¬ m < 12 := by
  unfold nextDay
  by_cases h1 : d < dim y m
  · rw [if_pos h1]; exact .inl ⟨rfl, h1⟩
  · by_cases h2 : m < 12
    · rw [if_neg h1, if_pos h2]; exact .inr (.inl ⟨rfl, h1, h2⟩)
    · rw [if_neg h1, if_neg h2]; exact .inr (.inr ⟨rfl, h1, h2⟩)

theorem nextDay_year (y m d : Int) : (nextDay y m d).1 = y ∨ (nextDay y m d).1 = y + 1 := by
  rcases nextDay_cases y m d with ⟨e, _⟩ | ⟨e, _⟩ | ⟨e, _⟩ <;> rw [e]
  · exact .inl rfl
  · exact .inl rfl
  · exact .inr rfl

theorem dayNumber_succ (y m d : Int) (h : Valid y m d) :
    dayNumber (nextDay y m d).1 (nextDay y m d).2.1 (nextDay y m d).2.2 = dayNumber y m d + 1 := by
  obtain ⟨hm1, hm12, hd1, hdm⟩ := h
  rcases nextDay_cases y m d with ⟨e, _⟩ | ⟨e, _, h2⟩ | ⟨e, _, h2⟩ <;> simp only [e, dayNumber]
  · omega
  · have := monthStart_succ y m hm1 h2
    omega
  · obtain rfl : m = 12 := by omega
    have := yearStart_succ y
    have := monthStart_dec y
    have := dim_dec y
    have := monthStart_jan (y + 1)
    omega

theorem nextDay_valid (y m d : Int) (h : Valid y m d) :
    Valid (nextDay y m d).1 (nextDay y m d).2.1 (nextDay y m d).2.2 := by
  obtain ⟨hm1, hm12, hd1, hdm⟩ := h
  rcases nextDay_cases y m d with ⟨e, _⟩ | ⟨e, _, _⟩ | ⟨e, _, _⟩ <;> simp only [e]
  · exact ⟨hm1, hm12, by omega, by omega⟩
  · exact ⟨by omega, by omega, by omega, dim_pos y (m + 1)⟩
  · exact ⟨by omega, by omega, by omega, dim_pos (y + 1) 1⟩

theorem dayNumber_lt_of_ymdLt (y1 m1 d1 y2 m2 d2 : Int) (h1 : Valid y1 m1 d1) (h2 : Valid y2 m2 d2)
    (h : ymdLt (y1, m1, d1) (y2, m2, d2)) : dayNumber y1 m1 d1 < dayNumber y2 m2 d2 := by
  have e1 := dayNumber_mem_year y1 m1 d1 h1
  have e2 := dayNumber_mem_year y2 m2 d2 h2
  obtain ⟨a1, a2, a3, a4⟩ := h1
  obtain ⟨b1, b2, b3, b4⟩ := h2
  unfold ymdLt at h
  simp only at h
  rcases h with h | ⟨rfl, h | ⟨rfl, h⟩⟩
  · have := yearStart_mono (y1 + 1) y2 (by omega)
    have := yearStart_succ y1
    omega
  all_goals unfold dayNumber
  · have := monthStart_succ y1 m1 a1 (by omega)
    have := monthStart_le y1 (m1 + 1) m2 (by omega) (by omega) b2
    omega
  · omega

theorem ymd_trichotomy (a b : Int × Int × Int) : ymdLt a b ∨ a = b ∨ ymdLt b a := by
  obtain ⟨a1, a2, a3⟩ := a
  obtain ⟨b1, b2, b3⟩ := b
  unfold ymdLt
  simp only [Prod.mk.injEq]
  omega

theorem dayNumber_inj (y1 m1 d1 y2 m2 d2 : Int) (h1 : Valid y1 m1 d1) (h2 : Valid y2 m2 d2)
    (h : dayNumber y1 m1 d1 = dayNumber y2 m2 d2) : (y1, m1, d1) = (y2, m2, d2) := by
  rcases ymd_trichotomy (y1, m1, d1) (y2, m2, d2) with hlt | heq | hgt
  · have := dayNumber_lt_of_ymdLt _ _ _ _ _ _ h1 h2 hlt; omega
  · exact heq
  · have := dayNumber_lt_of_ymdLt _ _ _ _ _ _ h2 h1 hgt; omega

/-- Day number of day `d` of month `M` (3..14) of the March-based year `Y`, as both kernels compute it: days up to
    1 March of `Y`, days from there to the first of month `M`, and the day of the month. -/
def marchDays (Y M d : Int) : Int :=
  1461 * Y / 4 - Y / 100 + Y / 100 / 4 + (979 * M - 2919) / 32 + (d - 1) - (3670 * 146097 + 719468)

theorem dayNumber_march (y m d : Int) (h1 : 1 ≤ m) (h12 : m ≤ 12) :
    dayNumber y m d = marchDays (y + 400 * 3670 - if m ≤ 2 then 1 else 0) (m + 12 * if m ≤ 2 then 1 else 0) d := by
  unfold dayNumber marchDays
  rw [monthStart_eq y m h1 h12]
  split
  · -- omega needs the two nested quotients flattened before it can compare them with those of `yearStart`
    have : 1461 * (y + 400 * 3670 - 1) / 4 = 365 * (y + 400 * 3670 - 1) + (y + 400 * 3670 - 1) / 4 := by omega
    have : (y + 400 * 3670 - 1) / 100 / 4 = (y + 400 * 3670 - 1) / 400 := by omega
    unfold yearStart; omega
  · have : 1461 * (y + 400 * 3670 - 0) / 4 = 365 * (y + 400 * 3670 - 0) + (y + 400 * 3670 - 0) / 4 := by omega
    have : (y + 400 * 3670 - 0) / 100 / 4 = (y + 400 * 3670 - 0) / 400 := by omega
    have hs := yearStart_succ y
    rw [diy_eq] at hs
    unfold yearStart at *; omega

theorem dayNumber_ofMarch (Y M d : Int) (h3 : 3 ≤ M) (h14 : M ≤ 14) :
    dayNumber (Y + (if M ≥ 13 then 1 else 0) - 400 * 3670) (M - 12 * if M ≥ 13 then 1 else 0) d = marchDays Y M d := by
  by_cases h : M ≥ 13
  · rw [if_pos h, dayNumber_march _ _ _ (by omega) (by omega), if_pos (by omega)]; congr 1 <;> omega
  · rw [if_neg h, dayNumber_march _ _ _ (by omega) (by omega), if_neg (by omega)]; congr 1 <;> omega

/-- The month lengths in March-based coordinates: February is month 14, of the year after. -/
theorem dim_ofMarch (Y M : Int) (h3 : 3 ≤ M) (h14 : M ≤ 14) :
    dim (Y + (if M ≥ 13 then 1 else 0) - 400 * 3670) (M - 12 * if M ≥ 13 then 1 else 0) =
      if M = 14 then (if isLeap (Y + 1 - 400 * 3670) then 29 else 28)
      else if M = 4 ∨ M = 6 ∨ M = 9 ∨ M = 11 then 30 else 31 := by
  unfold dim
  by_cases h13 : M ≥ 13
  · rw [if_pos h13]
    obtain rfl | rfl : M = 13 ∨ M = 14 := by omega
    · rfl
    · rfl
  · rw [if_neg h13, Int.mul_zero, Int.sub_zero, if_neg (show ¬ M = 2 by omega), if_neg (show ¬ M = 14 by omega)]

/-- Month 0 is what `iso_date_to_epoch_days` passes for December. -/
theorem toDays_march (y m d : Int) (h0 : 0 ≤ m) :
    epochDaysFromGregorianDate y m d =
      marchDays (y + 400 * 3670 - if m ≤ 2 then 1 else 0) (m + 12 * if m ≤ 2 then 1 else 0) d := by
  unfold epochDaysFromGregorianDate rataDieFirstEquations marchDays
  simp only [SHIFT_CONSTANT, DAYS_IN_A_400Y_CYCLE, EPOCH_COMPUTATIONAL_RATA_DIE]
  rw [Int.tdiv_eq_ediv_of_nonneg (by split <;> omega)]

theorem toDays_eq_dayNumber (y m d : Int) (hm1 : 1 ≤ m) (hm12 : m ≤ 12) :
    epochDaysFromGregorianDate y m d = dayNumber y m d := by
  rw [toDays_march y m d (by omega), dayNumber_march y m d hm1 hm12]

theorem or3_eq (x : Int) (hx : 0 ≤ x) : or3 x = 4 * (x / 4) + 3 := by
  -- `n ||| 3` sets the two low bits: write `n = (n / 4) <<< 2 + n % 4`, where the sum is an `|||` because the low bits
  -- of the shifted part are free, absorb `n % 4 ||| 3 = 3`, and turn the `|||` back into a sum
  unfold or3
  obtain ⟨n, rfl⟩ := Int.eq_ofNat_of_zero_le hx
  simp only [Int.toNat_natCast]
  have h : n ||| 3 = 4 * (n / 4) + 3 := by
    have h1 : n = (n / 4) <<< 2 + n % 4 := by
      rw [Nat.shiftLeft_eq]; omega
    have h2 : n % 4 < 2 ^ 2 := by omega
    conv => lhs; rw [h1]
    rw [Nat.shiftLeft_add_eq_or_of_lt h2, Nat.or_assoc]
    have h3 : n % 4 ||| 3 = 3 := by
      have : n % 4 = 0 ∨ n % 4 = 1 ∨ n % 4 = 2 ∨ n % 4 = 3 := by omega
      rcases this with h | h | h | h <;> rw [h] <;> decide
    rw [h3, ← Nat.shiftLeft_add_eq_or_of_lt (by decide : 3 < 2 ^ 2), Nat.shiftLeft_eq]
    omega
  rw [h]; omega

/-- The multiply-and-shift steps are division with remainder by 1461 (days in four years). -/
theorem mulshift_year (x : Int) (h0 : 0 ≤ x) (h1 : x < 146100) :
    2939745 * x / 4294967296 = x / 1461 := by omega
theorem mulshift_doy (x : Int) (h0 : 0 ≤ x) (h1 : x < 146100) :
    2939745 * x % 4294967296 / 2939745 / 4 = x % 1461 / 4 := by
  have : 2939745 * x % 4294967296 = 2939745 * (x % 1461) + 149 * (x / 1461) := by omega
  omega
theorem mulshift_year39 (x : Int) (h0 : 0 ≤ x) (h1 : x < 146100) :
    376287347 * x / 549755813888 = x / 1461 := by omega

/-- Division-only form of the coded days → (y, m, d) kernel: `Y` and `doy` are the March-based year and day of
    that year, `M` and `D` the March-based month and the zero-based day of the month. -/
def ymdExplicit (n : Int) : Int × Int × Int :=
  let rd := n + 719468 + 146097 * 3670
  let z := (4 * rd + 3) % 146097 / 4
  let Y := 100 * ((4 * rd + 3) / 146097) + (4 * z + 3) / 1461
  let doy := (4 * z + 3) % 1461 / 4
  let M := (2141 * doy + 197913) / 65536
  let D := (2141 * doy + 197913) % 65536 / 2141
  let j : Int := if doy ≥ 306 then 1 else 0
  (Y + j - 400 * 3670, M - 12 * j, D + 1)

/-- `N₂ = N₁ % 146097 | 3`, the position in the 400-year cycle in quarter days, is in the range of the
    multiply-and-shift steps. -/
theorem nTwo_range (N1 : Int) :
    0 ≤ N1 % 146097 ∧ 0 ≤ 4 * (N1 % 146097 / 4) + 3 ∧ 4 * (N1 % 146097 / 4) + 3 < 146100 := by omega

theorem ymdFromEpochDays_eq (n : Int) : ymdFromEpochDays n = ymdExplicit n := by
  unfold ymdFromEpochDays rataDieForEpochDays gregorianYmd thirdEquations secondEquations firstEquations nOne
    ymdExplicit
  simp only [SHIFT_CONSTANT, DAYS_IN_A_400Y_CYCLE, EPOCH_COMPUTATIONAL_RATA_DIE, TWO_POWER_THIRTY_TWO, TWO_POWER_SIXTEEN]
  obtain ⟨hR0, hx0, hx1⟩ := nTwo_range (4 * (n + 719468 + 146097 * 3670) + 3)
  simp only [or3_eq _ hR0, mulshift_year _ hx0 hx1, mulshift_doy _ hx0 hx1]

/-- `neri_schneider::year` (the separately coded year chain) agrees with the year of `ymd_from_epoch_days`. -/
theorem nsYear_eq (n : Int) :
    NS.year (rataDieForEpochDays n).1 (rataDieForEpochDays n).2 = (ymdExplicit n).1 := by
  unfold NS.year computationalYear jOf computationalDayOfYear computationalYearOfCentury nTwo nOne rataDieForEpochDays
    ymdExplicit
  simp only [SHIFT_CONSTANT, DAYS_IN_A_400Y_CYCLE, EPOCH_COMPUTATIONAL_RATA_DIE, TWO_POWER_THIRTY_NINE]
  obtain ⟨hR0, hx0, hx1⟩ := nTwo_range (4 * (n + 719468 + 146097 * 3670) + 3)
  simp only [or3_eq _ hR0, mulshift_year39 _ hx0 hx1]
  have e : ∀ x : Int, (x - 1461 * (x / 1461)) / 4 = x % 1461 / 4 := by intro x; omega
  simp only [e]

/-- A day count from 1 March of March-based year 0 splits into the March-based year `Y` and the day `doy` of that
    year: first the 400-year cycle position, then the year of the century.  Day 365 exists only before a leap
    February's end, i.e. when `Y + 1` is a leap year. -/
theorem yearDoy_split (rd : Int) :
    let z := (4 * rd + 3) % 146097 / 4
    let Y := 100 * ((4 * rd + 3) / 146097) + (4 * z + 3) / 1461
    let doy := (4 * z + 3) % 1461 / 4
    1461 * Y / 4 - Y / 100 + Y / 100 / 4 + doy = rd ∧ 0 ≤ doy ∧ doy ≤ 365 ∧
      (doy = 365 → (Y + 1) % 4 = 0 ∧ ((Y + 1) % 100 ≠ 0 ∨ (Y + 1) % 400 = 0)) := by
  dsimp only
  -- name the quotients and remainders: `4 rd + 3 = 146097 C + R` and `4 (R / 4) + 3 = 1461 yoc + e`
  have hC := Int.mul_ediv_add_emod (4 * rd + 3) 146097
  have hR : 0 ≤ (4 * rd + 3) % 146097 ∧ (4 * rd + 3) % 146097 < 146097 := by omega
  generalize (4 * rd + 3) / 146097 = C at *
  generalize (4 * rd + 3) % 146097 = R at *
  have hy := Int.mul_ediv_add_emod (4 * (R / 4) + 3) 1461
  have he : 0 ≤ (4 * (R / 4) + 3) % 1461 ∧ (4 * (R / 4) + 3) % 1461 < 1461 := by omega
  generalize (4 * (R / 4) + 3) / 1461 = yoc at *
  generalize (4 * (R / 4) + 3) % 1461 = e at *
  -- the year of the century is at most 99, and the remainders lost by the two divisions by 4 are fixed mod 4
  have hyoc : 0 ≤ yoc ∧ yoc ≤ 99 := by omega
  have h1 : 1461 * (100 * C + yoc) / 4 = 36525 * C + 365 * yoc + yoc / 4 := by omega
  have h2 : (100 * C + yoc) / 100 = C := by omega
  have hr : R % 4 = 3 - C % 4 := by omega
  have hf : e % 4 = 3 - yoc % 4 := by omega
  refine ⟨?_, by omega, by omega, ?_⟩
  · rw [h1, h2]; omega
  · omega

/-- The month/day step on every day `doy` of a March-based year: the month `M`, the zero-based day `D` in it
    (counted from the month's first day, in a month of the right length), and where February's 29th lies. -/
theorem monthday_table : ∀ k : Fin 366,
    let doy : Int := k.val
    let M := (2141 * doy + 197913) / 65536
    let D := (2141 * doy + 197913) % 65536 / 2141
    3 ≤ M ∧ M ≤ 14 ∧ 0 ≤ D ∧ (979 * M - 2919) / 32 + D = doy ∧ (doy ≥ 306 ↔ M ≥ 13) ∧
      D + 1 ≤ (if M = 14 then 29 else if M = 4 ∨ M = 6 ∨ M = 9 ∨ M = 11 then 30 else 31) ∧
      (M = 14 → D = 28 → doy = 365) := by
  decide +kernel

theorem fromDays_spec (n : Int) :
    ∃ y m d, ymdFromEpochDays n = (y, m, d) ∧ Valid y m d ∧ dayNumber y m d = n := by
  rw [ymdFromEpochDays_eq]
  unfold ymdExplicit
  have hs := yearDoy_split (n + 719468 + 146097 * 3670)
  simp only at hs ⊢
  generalize 100 * ((4 * (n + 719468 + 146097 * 3670) + 3) / 146097) +
    (4 * ((4 * (n + 719468 + 146097 * 3670) + 3) % 146097 / 4) + 3) / 1461 = Y at hs ⊢
  generalize (4 * ((4 * (n + 719468 + 146097 * 3670) + 3) % 146097 / 4) + 3) % 1461 / 4 = doy at hs ⊢
  obtain ⟨hrd, h0, h1, hleap⟩ := hs
  have ht := monthday_table ⟨doy.toNat, by omega⟩
  simp only [show ((doy.toNat : Nat) : Int) = doy by omega] at ht
  generalize (2141 * doy + 197913) / 65536 = M at ht ⊢
  generalize (2141 * doy + 197913) % 65536 / 2141 = D at ht ⊢
  obtain ⟨hM3, hM14, hD0, hmd, hj, hlen, hfeb⟩ := ht
  have hjM : (if doy ≥ 306 then (1 : Int) else 0) = if M ≥ 13 then 1 else 0 := by simp only [hj]
  rw [hjM]
  refine ⟨_, _, _, rfl, ⟨by omega, by omega, by omega, ?_⟩, ?_⟩
  · rw [dim_ofMarch Y M hM3 hM14]
    by_cases hM : M = 14
    · -- February has a 29th day only as day 365 of the March-based year, which `yearDoy_split` ties to the leap rule
      have hfeb := hfeb hM
      rw [if_pos hM] at hlen ⊢
      unfold isLeap
      simp only [decide_eq_true_eq]
      omega
    · rw [if_neg hM] at hlen ⊢; exact hlen
  · rw [dayNumber_ofMarch Y M _ hM3 hM14]; unfold marchDays; omega

theorem fromDays_year_bracket (n : Int) :
    yearStart (ymdFromEpochDays n).1 ≤ n ∧ n < yearStart ((ymdFromEpochDays n).1 + 1) := by
  obtain ⟨y, m, d, he, hv, hd⟩ := fromDays_spec n
  have := dayNumber_mem_year y m d hv
  rw [he, yearStart_succ, ← hd]
  exact this

theorem fromDays_toDays (y m d : Int) (h : Valid y m d) :
    ymdFromEpochDays (epochDaysFromGregorianDate y m d) = (y, m, d) := by
  rw [toDays_eq_dayNumber y m d h.1 h.2.1]
  obtain ⟨y', m', d', he, hv, hd⟩ := fromDays_spec (dayNumber y m d)
  rw [he]
  exact dayNumber_inj _ _ _ _ _ _ hv h hd

theorem isoDateToEpochDays_eq (y m d : Int) (hm1 : 1 ≤ m) (hm12 : m ≤ 12) :
    isoDateToEpochDays y m d = dayNumber y m d := by
  unfold isoDateToEpochDays
  simp only
  by_cases h12 : m = 12
  · subst h12
    have h0 : epochDaysFromGregorianDate (y + 1) 0 1 = epochDaysFromGregorianDate y 12 1 := by
      rw [toDays_march _ _ _ (by omega), toDays_march _ _ _ (by omega), if_pos (by omega), if_neg (by omega)]
      congr 1 <;> omega
    rw [show (12 : Int) / 12 = 1 by decide, show (12 : Int) % 12 = 0 by decide, h0,
      toDays_eq_dayNumber y 12 1 (by omega) (by omega)]
    unfold dayNumber; omega
  · rw [show m / 12 = 0 by omega, show m % 12 = m by omega, Int.add_zero, toDays_eq_dayNumber y m 1 hm1 hm12]
    unfold dayNumber; omega

theorem isoDateBalance_spec (y m d : Int) (hm1 : 1 ≤ m) (hm12 : m ≤ 12) :
    ∃ y' m' d', isoDateBalance y m d = (y', m', d') ∧ Valid y' m' d' ∧ dayNumber y' m' d' = dayNumber y m d := by
  unfold isoDateBalance
  simp only
  rw [isoDateToEpochDays_eq y m d hm1 hm12,
    show (dayNumber y m d * MS_PER_DAY + 0) / MS_PER_DAY = dayNumber y m d by unfold MS_PER_DAY; omega]
  exact fromDays_spec _

theorem mathematicalDaysInYear_eq (y : Int) : mathematicalDaysInYear y = .ok (diy y) := by
  unfold mathematicalDaysInYear diy isLeap
  simp only [← Int.dvd_iff_tmod_eq_zero, decide_eq_true_eq, ne_eq]
  -- the code's four arms in turn; they are exhaustive, so its last `else` (the assertion) is never reached
  by_cases h4 : (4 : Int) ∣ y
  · by_cases h100 : (100 : Int) ∣ y
    · by_cases h400 : (400 : Int) ∣ y
      · rw [if_neg (not_not_intro h4), if_neg (by omega), if_neg (by omega), if_pos h400, if_pos (by omega)]
      · rw [if_neg (not_not_intro h4), if_neg (by omega), if_pos ⟨h100, h400⟩, if_neg (by omega)]
    · rw [if_neg (not_not_intro h4), if_pos ⟨h4, h100⟩, if_pos (by omega)]
  · rw [if_pos h4, if_neg (by omega)]

theorem epochTimeToEpochYear_yearStart (y : Int) : epochTimeToEpochYear (MS_PER_DAY * epochDaysForYear y) = y := by
  unfold epochTimeToEpochYear
  simp only
  rw [show MS_PER_DAY * epochDaysForYear y / MS_PER_DAY = dayNumber y 1 1 by
    unfold MS_PER_DAY epochDaysForYear dayNumber yearStart; rw [monthStart_jan]; omega]
  obtain ⟨y', m', d', he, hv, hd⟩ := fromDays_spec (dayNumber y 1 1)
  rw [nsYear_eq, ← ymdFromEpochDays_eq, he]
  exact congrArg Prod.fst (dayNumber_inj _ _ _ _ _ _ hv ⟨by omega, by omega, by omega, dim_pos y 1⟩ hd)

theorem isoDaysInMonth_eq (y m : Int) (hm1 : 1 ≤ m) (hm12 : m ≤ 12) :
    isoDaysInMonth y m = .ok (dim y m) := by
  -- the code reduces the year modulo 400 first, which keeps the leap rule
  have hleap : isLeap (y % 400 + 2000) = isLeap y := by
    unfold isLeap; simp only [decide_eq_decide]; omega
  unfold isoDaysInMonth dim
  rw [epochTimeToEpochYear_yearStart, mathematicalDaysInYear_eq, diy, hleap]
  by_cases h2 : m = 2
  · subst h2; cases isLeap y <;> rfl
  · by_cases h30 : m = 4 ∨ m = 6 ∨ m = 9 ∨ m = 11
    · rw [if_neg (by omega), if_pos h30, if_neg h2, if_pos h30]
    · rw [if_pos (by omega), if_neg h2, if_neg h30]

end TemporalModel
