/-
  Lemmas/DurationLemmas.lean — the duration record (Model/Duration.lean) as a signed quantity: `isValid` is the
  specification's `ValidSpec`, `negated` and `abs` act as on numbers, and inside the 2^53 limits the double
  conversions and range checks of the model (`normChecked`, `Dur.new`) are the identity. Also the default largest
  unit as a number, and `normRound` for a time unit.
-/
import TemporalModel.Spec.Duration
import TemporalModel.Lemmas.PrimLemmas
namespace TemporalModel
open Dur

theorem Dur.forall_mem_fields (d : Dur) (P : Int → Prop) :
    (∀ v ∈ d.fields, P v) ↔ P d.years ∧ P d.months ∧ P d.weeks ∧ P d.days ∧ P d.hours ∧ P d.minutes ∧ P d.seconds ∧
      P d.milliseconds ∧ P d.microseconds ∧ P d.nanoseconds := by
  simp only [fields, List.mem_cons, List.mem_nil_iff, or_false, forall_eq_or_imp, forall_eq]

theorem Dur.signOf_cases (l : List Int) :
    (signOf l = 0 ∧ ∀ v ∈ l, v = 0) ∨ (signOf l = 1 ∧ ∃ v ∈ l, 0 < v) ∨ (signOf l = -1 ∧ ∃ v ∈ l, v < 0) := by
  induction l with
  | nil => exact .inl ⟨rfl, fun _ h => nomatch h⟩
  | cons a t ih =>
    unfold signOf
    by_cases h1 : a < 0
    · rw [if_pos h1]; exact .inr (.inr ⟨rfl, a, List.mem_cons_self, h1⟩)
    · by_cases h2 : a > 0
      · rw [if_neg h1, if_pos h2]; exact .inr (.inl ⟨rfl, a, List.mem_cons_self, h2⟩)
      · rw [if_neg h1, if_neg h2]
        rcases ih with ⟨e, h⟩ | ⟨e, v, hv, hp⟩ | ⟨e, v, hv, hp⟩
        · exact .inl ⟨e, List.forall_mem_cons.2 ⟨by omega, h⟩⟩
        · exact .inr (.inl ⟨e, v, List.mem_cons_of_mem _ hv, hp⟩)
        · exact .inr (.inr ⟨e, v, List.mem_cons_of_mem _ hv, hp⟩)

/-- No element contradicts the sign of the first non-zero one iff all share a sign. The left side is the `signsOk`
    test of `isValidFields` as `simp` turns it into a proposition. -/
theorem Dur.signOf_agrees_iff (f : List Int) :
    (∀ v ∈ f, (¬v < 0 ∨ ¬signOf f = 1) ∧ (¬v > 0 ∨ ¬signOf f = -1)) ↔ (∀ v ∈ f, 0 ≤ v) ∨ (∀ v ∈ f, v ≤ 0) := by
  rcases Dur.signOf_cases f with ⟨e, h⟩ | ⟨e, w, hw, hp⟩ | ⟨e, w, hw, hp⟩ <;> rw [e]
  · exact ⟨fun _ => .inl fun v hv => by have := h v hv; omega, fun _ v hv => by omega⟩
  · constructor
    · exact fun H => .inl fun v hv => by have := (H v hv).1; omega
    · rintro (H | H) v hv
      · have := H v hv; omega
      · have := H w hw; omega
  · constructor
    · exact fun H => .inr fun v hv => by have := (H v hv).2; omega
    · rintro (H | H) v hv
      · have := H w hw; omega
      · have := H v hv; omega

theorem Dur.isValid_iff (d : Dur) : d.isValid = true ↔ d.ValidSpec := by
  unfold isValid isValidFields ValidSpec signUniform
  simp only [Bool.and_eq_true, decide_eq_true_eq, List.all_eq_true, Bool.not_eq_true', Bool.and_eq_false_iff,
    decide_eq_false_iff_not, Dur.signOf_agrees_iff]
  constructor
  · rintro ⟨⟨⟨⟨⟨h1, h2⟩, h3⟩, h4⟩, _⟩, h6⟩
    exact ⟨h1, h2, h3, h4, h6⟩
  · rintro ⟨h1, h2, h3, h4, h6⟩
    refine ⟨⟨⟨⟨⟨h1, h2⟩, h3⟩, h4⟩, ?_⟩, h6⟩
    -- contributions are bounded by the total when the fields share a sign
    simp only [List.mem_cons, List.mem_nil_iff, or_false, forall_eq_or_imp, forall_eq]
    unfold totalNs timeNs TWO_POWER_FIFTY_THREE at *
    simp only [Dur.forall_mem_fields] at h1
    clear h2 h3 h4
    rcases h1 with h1 | h1 <;> omega

theorem Dur.timeNs_add_days (d : Dur) : d.timeNs + d.days * 86400000000000 = d.totalNs := Int.add_comm ..

/-- Over `Int`, so that omega splits the `if`s. -/
theorem Dur.defaultLargestUnit_toNat (d : Dur) : (d.defaultLargestUnit.toNat : Int) =
    if d.years ≠ 0 then 10 else if d.months ≠ 0 then 9 else if d.weeks ≠ 0 then 8 else if d.days ≠ 0 then 7
    else if d.hours ≠ 0 then 6 else if d.minutes ≠ 0 then 5 else if d.seconds ≠ 0 then 4
    else if d.milliseconds ≠ 0 then 3 else if d.microseconds ≠ 0 then 2 else 1 := by
  simp only [defaultLargestUnit, apply_ite (fun u : TUnit => (u.toNat : Int))]
  rfl

theorem Dur.defaultLargestUnit_ne_auto (d : Dur) : d.defaultLargestUnit ≠ .auto := by
  have := Dur.defaultLargestUnit_toNat d
  rw [ne_eq, ← TUnit.toNat_eq_zero]
  omega

theorem Dur.defaultLargestUnit_not_calendar (d : Dur) (hc : d.calendarFree) :
    d.defaultLargestUnit.isCalendarUnit = false := by
  have e := Dur.defaultLargestUnit_toNat d
  unfold calendarFree at hc
  rw [Bool.eq_false_iff, ne_eq, TUnit.isCalendarUnit_iff]
  omega

theorem Dur.signOf_neg (l : List Int) : signOf (l.map (fun v => -v)) = - signOf l := by
  induction l with
  | nil => rfl
  | cons a t ih =>
    simp only [List.map, signOf, ih]
    omega

theorem Dur.negated_fields (d : Dur) : d.negated.fields = d.fields.map (fun v => -v) := rfl

theorem Dur.negated_negated (d : Dur) : d.negated.negated = d := by
  simp only [negated, Int.neg_neg]

theorem Dur.negated_timeNs (d : Dur) : d.negated.timeNs = -d.timeNs := by
  simp only [timeNs, negated]; omega

theorem Dur.negated_totalNs (d : Dur) : d.negated.totalNs = - d.totalNs := by
  simp only [totalNs, timeNs, negated]; omega

theorem Dur.negated_isTimeDuration (d : Dur) : d.negated.isTimeDuration = d.isTimeDuration := by
  simp only [isTimeDuration, negated, Int.neg_eq_zero]

theorem Dur.negated_abs (d : Dur) : d.negated.abs = d.abs := by
  simp only [Dur.abs, negated, Int.natAbs_neg]

theorem Dur.abs_nonneg (d : Dur) : ∀ v ∈ d.abs.fields, 0 ≤ v := by
  simp only [Dur.forall_mem_fields, Dur.abs, Int.natCast_nonneg, and_self]

theorem Dur.abs_of_nonneg (d : Dur) (h : ∀ v ∈ d.fields, 0 ≤ v) : d.abs = d := by
  obtain ⟨y, mo, w, dd, hh, mi, s, ms, us, n⟩ := d
  simp only [Dur.forall_mem_fields] at h
  simp only [Dur.abs, Dur.mk.injEq]
  omega

theorem Dur.abs_of_nonpos (d : Dur) (h : ∀ v ∈ d.fields, v ≤ 0) : d.abs = d.negated := by
  obtain ⟨y, mo, w, dd, hh, mi, s, ms, us, n⟩ := d
  simp only [Dur.forall_mem_fields] at h
  simp only [Dur.abs, negated, Dur.mk.injEq]
  omega

theorem Dur.abs_totalNs (d : Dur) (h : d.signUniform) : d.abs.totalNs = (d.totalNs.natAbs : Int) := by
  rcases h with h | h
  · rw [Dur.abs_of_nonneg d h]
    simp only [Dur.forall_mem_fields] at h
    simp only [totalNs, timeNs]; omega
  · rw [Dur.abs_of_nonpos d h, Dur.negated_totalNs]
    simp only [Dur.forall_mem_fields] at h
    simp only [totalNs, timeNs]; omega

theorem F64.ofInt_small (x : Int) (h : (x.natAbs : Int) ≤ 9007199254740992) : F64.ofInt x = x := by
  -- below 2^53 a number has at most 53 bits and `roundNat` leaves it alone; 2^53 itself has 54 and rounds to itself
  have rn : ∀ n : Nat, n ≤ 9007199254740992 → F64.roundNat n = n := by
    intro n hn
    by_cases he : n = 9007199254740992
    · subst he; decide
    · have hb : F64.bitLen n ≤ 53 := by
        unfold F64.bitLen; split
        · omega
        · have := (Nat.log2_lt ‹_›).mpr (show n < 2 ^ 53 by omega); omega
      unfold F64.roundNat; simp only [hb, if_true]
  unfold F64.ofInt
  split
  · rw [rn _ (by omega)]; omega
  · rw [rn _ (by omega)]; omega

theorem F64.toI64Sat_small (x : Int) (h : (x.natAbs : Int) ≤ 9007199254740992) : F64.toI64Sat x = x := by
  unfold F64.toI64Sat clamp; omega

theorem normChecked_eq_ok {x y : Int} :
    normChecked x = .ok y ↔ (x.natAbs : Int) ≤ MAX_TIME_DURATION ∧ x = y := by
  unfold normChecked
  rw [Out.err_ite_eq_ok, Out.ok.injEq, gt_iff_lt, Int.not_lt]

theorem normChecked_of_le {x : Int} (h : (x.natAbs : Int) ≤ MAX_TIME_DURATION) : normChecked x = .ok x :=
  normChecked_eq_ok.mpr ⟨h, rfl⟩

theorem Dur.new_eq_ok {d r : Dur} : Dur.new d = .ok r ↔ d.isValid = true ∧ d = r := by
  unfold Dur.new
  rw [Out.ite_err_eq_ok, Out.ok.injEq]

theorem Dur.new_of_valid {d : Dur} (h : d.isValid = true) : Dur.new d = .ok d := Dur.new_eq_ok.mpr ⟨h, rfl⟩

@[ensures] theorem Dur.new_valid {d : Dur} : (Dur.new d).Ensures Dur.ValidSpec := by
  simp only [Dur.new, ensures]
  exact (Dur.isValid_iff d).mp

@[ensures] theorem Dur.zero_valid : Dur.zero.ValidSpec := (Dur.isValid_iff _).mp (by decide)

/-- 104249991374 = ⌊2^53 / 86400⌋: the days whose nanoseconds stay below 2^53 seconds. -/
theorem Dur.new_days (d : Int) (h : (d.natAbs : Int) ≤ 104249991374) :
    Dur.new ⟨0, 0, 0, d, 0, 0, 0, 0, 0, 0⟩ = .ok ⟨0, 0, 0, d, 0, 0, 0, 0, 0, 0⟩ := by
  have h0 : (0 : Int).natAbs < 4294967296 := by decide
  refine Dur.new_of_valid ((Dur.isValid_iff _).mpr ⟨?_, h0, h0, h0, ?_⟩)
  · unfold Dur.signUniform
    simp only [Dur.forall_mem_fields]
    omega
  · simp only [Dur.totalNs, Dur.timeNs]; omega

theorem normRound_time (norm days : Int) (o : Resolved) (len : Nat) (ht : o.smallest.isTimeUnit = true)
    (hlen : o.smallest.asNanoseconds = some len) :
    normRound norm days o = (do
      let r ← normChecked (RoundI128.round norm (len * o.increment) o.mode)
      if days ≠ 0 ∧ r ≠ 0 ∧ ((days < 0) ≠ (r < 0)) then .err .range else pure (days, r)) := by
  unfold normRound
  cases hs : o.smallest <;> rw [hs] at ht hlen <;> cases ht <;> simp only [hlen]

end TemporalModel
