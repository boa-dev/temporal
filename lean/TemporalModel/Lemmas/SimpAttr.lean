import Lean.Meta.Tactic.Simp.RegisterCommand

/-! The two simp sets of the library, in a module of their own because an attribute cannot be used in the module that
registers it. -/

/-- The simp set of `Out.Safe` (Lemmas/SafeBase.lean). -/
register_simp_attr safe

/-- The simp set of `Out.Ensures` (Lemmas/PrimLemmas.lean). -/
register_simp_attr ensures
