/-
  Lemmas/SafeBase.lean — `Out.Safe`: the outcome is a value or a Type/Range/Syntax/generic error — not a panic and
  not an internal-assertion error.  This is property C03 as a predicate on model outcomes.
-/
import TemporalModel.Lemmas.PrimLemmas

namespace TemporalModel

def Out.Safe {α} : Out α → Prop
  | .ok _ => True
  | .err k => k ≠ .assert
  | .panic => False

namespace Out
@[simp] theorem safe_ok {α} (a : α) : (Out.ok a).Safe := trivial
@[simp] theorem safe_pure {α} (a : α) : (pure a : Out α).Safe := safe_ok a
@[simp] theorem safe_range {α} : (Out.err .range : Out α).Safe := nofun
@[simp] theorem safe_type {α} : (Out.err .type : Out α).Safe := nofun
@[simp] theorem safe_syntax {α} : (Out.err .syntax : Out α).Safe := nofun
@[simp] theorem safe_generic {α} : (Out.err .generic : Out α).Safe := nofun
@[simp] theorem not_safe_panic {α} : ¬ (Out.panic : Out α).Safe := id
@[simp] theorem not_safe_assert {α} : ¬ (Out.err .assert : Out α).Safe := fun h => h rfl

theorem safe_bind_iff {α β} (x : Out α) (f : α → Out β) :
    (x >>= f).Safe ↔ x.Safe ∧ ∀ a, x = .ok a → (f a).Safe := by
  cases x with
  | ok a => exact ⟨fun h => ⟨trivial, fun _ e => ok.inj e ▸ h⟩, fun h => h.2 a rfl⟩
  | err k => exact ⟨fun h => ⟨h, nofun⟩, fun h => h.1⟩
  | panic => exact ⟨False.elim, fun h => h.1⟩

theorem safe_ite {α} (c : Prop) [Decidable c] (a b : Out α) :
    (if c then a else b).Safe ↔ (c → a.Safe) ∧ (¬ c → b.Safe) := by
  split
  · next h => exact ⟨fun ha => ⟨fun _ => ha, (absurd h ·)⟩, (·.1 h)⟩
  · next h => exact ⟨fun hb => ⟨(absurd · h), fun _ => hb⟩, (·.2 h)⟩

theorem safe_map {α β} (f : α → β) (x : Out α) : (f <$> x).Safe ↔ x.Safe := by
  cases x <;> exact Iff.rfl

/- `simp only [f, safe]` decides `Safe` of a `do` block by its structure: `bind` and `if` by the rules above, leaves
by their error kind, callees by their own `@[safe]` lemma.  What it leaves open is what is not structural; there the
premise `x = .ok a` of `safe_bind_iff` is at hand (`intro a ha`) to say what a successful callee guarantees.
`Prod.forall`, `Option.forall`: a step that binds a pair or an `Option` is followed by a `match` on it, which reduces
only once the `∀ a` is split into components resp. `none`/`some`. -/
attribute [safe] safe_ok safe_pure safe_range safe_type safe_syntax safe_generic not_safe_panic not_safe_assert
  safe_bind_iff safe_ite safe_map
  implies_true and_self and_true true_and forall_const Prod.forall Option.forall
end Out
end TemporalModel
